import Gearpy.Proofs.Chain
import Mathlib.Tactic.Linarith
/-!
# One instant, and induction over runs and schedules

`compute_ok` says what a successful `compute` returns (`Computed`); a property kept by what a run does to the state
(`KeptByRun`), or also by what the user does between runs (`Kept`), survives every run, every schedule.
-/

namespace Gearpy

/-- what C01 + C02 + C03 (acceleration) say about one record -/
structure RecOK (c : Cfg) (r : Rec) : Prop where
  pos : Coupled (c.links.map (·.ratio)) r.pos
  speed : Coupled (c.links.map (·.ratio)) r.speed
  acc : Coupled (c.links.map (·.ratio)) r.acc
  drive : DriveOK c.links r.dtorque
  drive0 : r.dtorque.head? = some (c.motorTorque (r.speed.headD 0) r.pwm)
  load : LoadOK c.links r.ltorque
  loadLast : r.ltorque.getLast? = some (c.load (lastD r.pos) (lastD r.speed) r.time)
  net : r.torque = List.zipWith (· - ·) r.dtorque r.ltorque
  eom : r.locked = false → lastD r.acc = lastD r.torque / inertia c
  lockedSL : r.locked = true → c.sl = true
  lockedStill : r.locked = true → r.speed = zeros (c.links.length + 1) ∧ r.acc = zeros (c.links.length + 1)
  cur : r.current = c.motorCurrent r.pwm (r.dtorque.headD 0)
  forces : gearForces c.gears r.dtorque r.ltorque = .ok r.force
  stresses : gearStresses c.gears r.force = .ok (r.bending, r.contactSq)

theorem RecOK.coupled {c : Cfg} {r : Rec} (h : RecOK c r) :
    Coupled (c.links.map (·.ratio)) r.pos ∧ Coupled (c.links.map (·.ratio)) r.speed ∧
      Coupled (c.links.map (·.ratio)) r.acc := ⟨h.pos, h.speed, h.acc⟩

theorem RecOK.unlocked {c : Cfg} {r : Rec} (h : RecOK c r) (hsl : c.sl = false) : r.locked = false :=
  Bool.eq_false_iff.mpr fun hl => Bool.false_ne_true (hsl.symm.trans (h.lockedSL hl))

/-- `_check_powertrain_is_locked` as a proposition: held at this instant iff self-locking engages, or the powertrain
    was held and the motor's recorded torque does not release it -/
theorem checkLock_iff {sl locked : Bool} {pwm speed : Q} {torque : Option Q} {tolW tolT : Q} :
    checkLock sl locked pwm speed torque tolW tolT = true ↔
      (sl = true ∧ (pwm = 0 ∨ (0 < pwm ∧ speed < -tolW) ∨ (pwm < 0 ∧ tolW < speed))) ∨
      (locked = true ∧ ∀ t, torque = some t → ¬ ((tolT < t ∧ 0 < pwm) ∨ (t < -tolT ∧ pwm < 0))) := by
  unfold checkLock
  -- the code's two tests are Boolean expressions: read them as the propositions of the statement, then go by cases
  simp only [Bool.and_eq_true, Bool.or_eq_true, beq_iff_eq, decide_eq_true_eq, or_assoc]
  split
  · exact iff_of_true rfl (Or.inl ‹_›)
  · cases torque with
    | none => simp [*]
    | some t => simp only [*, false_or, Option.some.injEq, forall_eq']; split <;> simp [*]

/-- from a released state the lock check does not look at the motor's recorded torque, and — unless the powertrain
    is self-locking — not at the duty cycle either -/
theorem checkLock_unlocked {sl : Bool} {pwm pwm' speed : Q} {torque torque' : Option Q} {tolW tolT : Q}
    (h : pwm = pwm' ∨ sl = false) :
    checkLock sl false pwm speed torque tolW tolT = checkLock sl false pwm' speed torque' tolW tolT := by
  rw [Bool.eq_iff_iff, checkLock_iff, checkLock_iff]
  rcases h with rfl | rfl <;> simp

/-- What a successful `compute c s t` returns: the appended record `r` as a function of the state `s` it started
    from, in the order of `_compute_powertrain_variables`, and the new live attributes as functions of `r`.
    The clamped last speed and the last acceleration are the new state's (`speed'`, `acc'`), which is why `ltorque` and
    `acc` mention `s'`. -/
structure Computed (c : Cfg) (s : St) (t : Q) (r : Rec) (s' : St) : Prop where
  recs : s'.recs = s.recs ++ [r]
  time : r.time = t
  locked : r.locked = checkLock c.sl s.locked s.pwm ((upstream (c.links.map (·.ratio)) s.speed).headD 0)
             s.mtorque c.tolW c.tolT
  pos : r.pos = upstream (c.links.map (·.ratio)) s.pos
  speed : r.speed = if r.locked then zeros (c.links.length + 1) else upstream (c.links.map (·.ratio)) s.speed
  ltorque : r.ltorque = loadUp c.links (c.load s.pos s'.speed t)
  pwm : match c.control with
        | none => r.pwm = s.pwm
        | some f => f { time := t, pos := r.pos, speed := r.speed, load0 := r.ltorque.headD 0,
                        firstLoad0 := (s.recs.head?.map (·.ltorque.headD 0)).getD (r.ltorque.headD 0) } = .ok r.pwm
  dtorque : r.dtorque = driveDown c.links (c.motorTorque (r.speed.headD 0) r.pwm)
  torque : r.torque = List.zipWith (· - ·) r.dtorque r.ltorque
  acc : r.acc = if r.locked then zeros (c.links.length + 1) else upstream (c.links.map (·.ratio)) s'.acc
  current : r.current = c.motorCurrent r.pwm (r.dtorque.headD 0)
  forces : gearForces c.gears r.dtorque r.ltorque = .ok r.force
  stresses : gearStresses c.gears r.force = .ok (r.bending, r.contactSq)
  pos' : s'.pos = s.pos
  speed' : s'.speed = if r.locked then 0 else s.speed
  acc' : s'.acc = if r.locked then 0 else lastD r.torque / inertia c
  mtorque' : s'.mtorque = some (r.torque.headD 0)
  pwm' : s'.pwm = r.pwm
  locked' : s'.locked = r.locked

theorem compute_ok {c : Cfg} {s s' : St} {t : Q} (h : compute c s t = .ok s') : ∃ r, Computed c s t r s' := by
  unfold compute at h
  simp only at h
  split at h
  · simp at h
  · rename_i pwm hp
    split at h
    · simp at h
    · rename_i force hforce
      split at h
      · simp at h
      · rename_i bending contactSq hstress
        simp only [Except.ok.injEq] at h
        subst h
        refine ⟨_, rfl, rfl, rfl, rfl, rfl, rfl, ?_, rfl, rfl, rfl, rfl, hforce, hstress, rfl, rfl, rfl, rfl, rfl, rfl⟩
        cases hc : c.control with
        | none => rw [hc] at hp; simpa using hp.symm
        | some f => rw [hc] at hp; exact hp

namespace Computed
variable {c : Cfg} {s s' : St} {t : Q} {r : Rec} (h : Computed c s t r s')
include h

theorem getLast : s'.recs.getLast? = some r := by rw [h.recs]; simp

theorem forall_recs {P : Rec → Prop} : (∀ r' ∈ s'.recs, P r') ↔ (∀ r' ∈ s.recs, P r') ∧ P r := by
  rw [h.recs, List.forall_mem_append, List.forall_mem_singleton]

theorem lastPos : lastD r.pos = s'.pos := by
  rw [h.pos, h.pos']; exact lastD_of_getLast? (upstream_getLast _ _)

theorem lastSpeed : lastD r.speed = s'.speed := by rw [h.speed, h.speed', lastD_clamped]

theorem lastAcc : lastD r.acc = s'.acc := by rw [h.acc, lastD_clamped, h.acc']; split <;> simp_all

theorem still (hl : r.locked = true) :
    r.speed = zeros (c.links.length + 1) ∧ r.acc = zeros (c.links.length + 1) := by
  rw [h.speed, h.acc, hl]; exact ⟨rfl, rfl⟩

theorem sign_safe (hsl : c.sl = true) (htol : 0 ≤ c.tolW) :
    (s.pwm = 0 → r.speed.headD 0 = 0) ∧ (0 < s.pwm → -c.tolW ≤ r.speed.headD 0) ∧
      (s.pwm < 0 → r.speed.headD 0 ≤ c.tolW) := by
  rw [h.speed]
  cases hl : r.locked with
  | true => simp [zeros, List.replicate_succ, htol]
  | false =>
    -- not held although self-locking: none of the three engaging conditions holds
    have hne := mt checkLock_iff.mpr (by rw [← h.locked, hl]; simp)
    simp only [hsl, true_and, not_or, not_and, not_lt] at hne
    exact ⟨fun h0 => absurd h0 hne.1.1, hne.1.2.1, hne.1.2.2⟩

theorem release (hlocked : s.locked = true) (hrel : r.locked = false) :
    ∃ T, s.mtorque = some T ∧ ((c.tolT < T ∧ 0 < s.pwm) ∨ (T < -c.tolT ∧ s.pwm < 0)) := by
  have hne := mt checkLock_iff.mpr (by rw [← h.locked, hrel]; simp)
  obtain ⟨T, hT⟩ := not_forall.mp fun hall => hne (Or.inr ⟨hlocked, hall⟩)
  exact ⟨T, (Classical.not_imp.mp hT).1, not_not.mp (Classical.not_imp.mp hT).2⟩

theorem recOK (hinv : s.locked = true → c.sl = true) : RecOK c r where
  pos := by rw [h.pos]; exact upstream_coupled _ _
  speed := by
    rw [h.speed]; split
    · simpa using zeros_coupled (c.links.map (·.ratio))
    · exact upstream_coupled _ _
  acc := by
    rw [h.acc]; split
    · simpa using zeros_coupled (c.links.map (·.ratio))
    · exact upstream_coupled _ _
  drive := by rw [h.dtorque]; exact (driveDown_ok _ _).1
  drive0 := by rw [h.dtorque]; exact (driveDown_ok _ _).2
  load := by rw [h.ltorque]; exact (loadUp_ok _ _).1
  loadLast := by rw [h.ltorque, (loadUp_ok _ _).2, h.lastPos, h.lastSpeed, h.pos', h.time]
  net := h.torque
  eom := fun hl => by rw [h.lastAcc, h.acc', hl]; rfl
  lockedSL := fun hl => (checkLock_iff.mp (h.locked ▸ hl)).elim And.left fun h' => hinv h'.1
  lockedStill := h.still
  cur := h.current
  forces := h.forces
  stresses := h.stresses

end Computed

/-- the record appended by one `compute`, and how the live state relates to it -/
theorem compute_recOK (c : Cfg) (s s' : St) (t : Q) (hinv : s.locked = true → c.sl = true)
    (h : compute c s t = .ok s') :
    ∃ r, s'.recs = s.recs ++ [r] ∧ RecOK c r ∧ r.time = t ∧ s'.locked = r.locked
      ∧ s'.pos = lastD r.pos ∧ s'.speed = lastD r.speed ∧ s'.acc = lastD r.acc ∧ s'.pwm = r.pwm
      ∧ s'.pos = s.pos ∧ s'.mtorque = some (r.torque.headD 0) := by
  obtain ⟨r, hr⟩ := compute_ok h
  exact ⟨r, hr.recs, hr.recOK hinv, hr.time, hr.locked', hr.lastPos.symm, hr.lastSpeed.symm, hr.lastAcc.symm,
    hr.pwm', hr.pos', hr.mtorque'⟩

/-- a step is a `compute` on the integrated state -/
theorem stepAt_ok {c : Cfg} {dt t : Q} {s s' : St} (h : stepAt c dt s t = .ok s') :
    ∃ r, Computed c (integrate s dt) t r s' :=
  compute_ok h


theorem loop_cons {c : Cfg} {dt : Q} {stop} {t : Q} {ts : List Q} {s s' : St} :
    loop c dt stop (t :: ts) s = .ok s' ↔
      ∃ s1, stepAt c dt s t = .ok s1 ∧ if stopNow stop s1 then s1 = s' else loop c dt stop ts s1 = .ok s' := by
  simp only [loop]
  cases stepAt c dt s t with
  | error e => simp
  | ok s1 => simp only [Except.ok.injEq, exists_eq_left']; split <;> simp

theorem lastTime_eq_none {s : St} : lastTime s = none ↔ s.recs = [] := by simp [lastTime]

theorem run_continued {c : Cfg} {dt : Q} {n : Nat} {stop} {s : St} {t0 : Q} (h0 : lastTime s = some t0) :
    run c dt n stop s = loop c dt stop (grid t0 dt n) s := by
  simp only [run, h0]

/-- a run continues from the last recorded instant, or — on an empty history — starts with a `compute` at time 0
    on the state with the lock flag cleared -/
theorem run_eq_ok {c : Cfg} {dt : Q} {n : Nat} {stop} {s s' : St} :
    run c dt n stop s = .ok s' ↔
      (∃ t0, lastTime s = some t0 ∧ loop c dt stop (grid t0 dt n) s = .ok s') ∨
      (s.recs = [] ∧ ∃ s0, compute c { s with locked := false } 0 = .ok s0 ∧ loop c dt stop (grid 0 dt n) s0 = .ok s') := by
  cases hl : lastTime s with
  | some t0 =>
    have hne : s.recs ≠ [] := fun h0 => by simp [lastTime, h0] at hl
    simp [run_continued hl, hne]
  | none =>
    have h0 : s.recs = [] := lastTime_eq_none.mp hl
    unfold run
    cases compute c { s with locked := false } 0 <;> simp [hl, h0]

/-- a run is a loop over a grid from some state, the same for every step count and stop condition -/
theorem run_eq_loop (c : Cfg) (dt : Q) (s : St) :
    (∃ e, ∀ n stop, run c dt n stop s = .error e) ∨
      ∃ t0 s0, ∀ n stop, run c dt n stop s = loop c dt stop (grid t0 dt n) s0 := by
  cases hl : lastTime s with
  | some t0 => exact .inr ⟨t0, s, fun _ _ => run_continued hl⟩
  | none =>
    cases hc : compute c { s with locked := false } 0 with
    | error e => exact .inl ⟨e, fun _ _ => by simp only [run, hl, hc]⟩
    | ok s0 => exact .inr ⟨0, s0, fun _ _ => by simp only [run, hl, hc]⟩

theorem run_fresh_ok {c : Cfg} {dt : Q} {n : Nat} {stop} {s s' : St} (h0 : s.recs = [])
    (h : run c dt n stop s = .ok s') :
    ∃ r0 s0, Computed c { s with locked := false } 0 r0 s0 ∧ loop c dt stop (grid 0 dt n) s0 = .ok s' := by
  rcases run_eq_ok.mp h with ⟨t0, hl, _⟩ | ⟨_, s0, hc, h⟩
  · rw [lastTime_eq_none.mpr h0] at hl; cases hl
  · exact (compute_ok hc).imp fun r0 hr => ⟨s0, hr, h⟩

theorem exec_cons {c : Cfg} {o : Op} {os : List Op} {s s' : St} :
    exec c (o :: os) s = .ok s' ↔ ∃ s1, applyOp c s o = .ok s1 ∧ exec c os s1 = .ok s' := by
  simp only [exec]; cases applyOp c s o <;> simp

theorem reset_eq_ok {s s' : St} : reset s = .ok s' ↔
    ∃ r rs, s.recs = r :: rs ∧ s' = { s with recs := [], pos := lastD r.pos, speed := lastD r.speed, acc := lastD r.acc,
                                             mtorque := some (r.torque.headD 0), pwm := r.pwm } := by
  unfold reset; split <;> simp_all [eq_comm]


/-- `P` survives what a run does to the state -/
structure KeptByRun (c : Cfg) (P : St → Prop) : Prop where
  compute : ∀ {s t s'}, P s → compute c s t = .ok s' → P s'
  integrate : ∀ {s} dt, P s → P (integrate s dt)
  unlock : ∀ {s}, P s → P { s with locked := false }

/-- … and what the user can do between runs -/
structure Kept (c : Cfg) (P : St → Prop) : Prop extends KeptByRun c P where
  reset : ∀ {s s'}, P s → reset s = .ok s' → P s'
  setInitial : ∀ {s} p v, P s → P { s with pos := p, speed := v }
  setPwm : ∀ {s} p, -1 ≤ p ∧ p ≤ 1 → P s → P { s with pwm := p }

theorem loop_induct {c : Cfg} {dt : Q} {stop} {P : St → Prop}
    (hstep : ∀ s t s', P s → stepAt c dt s t = .ok s' → P s') {ts : List Q} {s s' : St}
    (h : loop c dt stop ts s = .ok s') (hs : P s) : P s' := by
  induction ts generalizing s with
  | nil => simp only [loop, Except.ok.injEq] at h; exact h ▸ hs
  | cons t ts ih =>
    obtain ⟨s1, h1, h⟩ := loop_cons.mp h
    have hs1 := hstep s t s1 hs h1
    split at h
    · exact h ▸ hs1
    · exact ih h hs1

variable {c : Cfg} {P : St → Prop}

theorem step_kept (k : KeptByRun c P) {dt t : Q} {s s' : St} (h : stepAt c dt s t = .ok s') (hs : P s) : P s' :=
  k.compute (k.integrate dt hs) h

theorem loop_kept (k : KeptByRun c P) {dt : Q} {stop} {ts : List Q} {s s' : St}
    (h : loop c dt stop ts s = .ok s') (hs : P s) : P s' :=
  loop_induct (fun _ _ _ hs h => step_kept k h hs) h hs

theorem run_kept (k : KeptByRun c P) {dt : Q} {n : Nat} {stop} {s s' : St}
    (h : run c dt n stop s = .ok s') (hs : P s) : P s' := by
  rcases run_eq_ok.mp h with ⟨_, _, h⟩ | ⟨_, _, h0, h⟩
  · exact loop_kept k h hs
  · exact loop_kept k h (k.compute (k.unlock hs) h0)

theorem applyOp_kept (k : Kept c P) {o : Op} {s s' : St} (h : applyOp c s o = .ok s') (hs : P s) : P s' := by
  cases o with
  | run dt n stop => exact run_kept k.toKeptByRun h hs
  | reset => exact k.reset hs h
  | setInitial p v => simp only [applyOp, Except.ok.injEq] at h; exact h ▸ k.setInitial p v hs
  | setPwm p =>
    simp only [applyOp] at h
    split at h
    · rename_i hp; simp only [Except.ok.injEq] at h; exact h ▸ k.setPwm p hp hs
    · simp at h
  | newSolver => simp only [applyOp, Except.ok.injEq] at h; exact h ▸ k.unlock hs

theorem exec_kept (k : Kept c P) {ops : List Op} {s s' : St} (h : exec c ops s = .ok s') (hs : P s) : P s' := by
  induction ops generalizing s with
  | nil => simp only [exec, Except.ok.injEq] at h; exact h ▸ hs
  | cons o os ih =>
    obtain ⟨s1, h1, h⟩ := exec_cons.mp h
    exact ih h (applyOp_kept k h1 hs)

/-- a property `D` that every output of the controller has spreads from the duty-cycle attribute to every recorded
    duty cycle -/
theorem pwm_kept (c : Cfg) (D : Q → Prop) (hc : ∀ f, c.control = some f → ∀ i d, f i = .ok d → D d) :
    KeptByRun c fun s => D s.pwm ∧ ∀ r ∈ s.recs, D r.pwm where
  compute := fun {s _ _} hs h => by
    obtain ⟨r, hr⟩ := compute_ok h
    have hp : D r.pwm := by
      have := hr.pwm
      cases hcc : c.control with
      | none => rw [hcc] at this; exact this ▸ hs.1
      | some f => rw [hcc] at this; exact hc f hcc _ _ this
    exact ⟨hr.pwm' ▸ hp, hr.forall_recs.mpr ⟨hs.2, hp⟩⟩
  integrate := fun _ hs => hs
  unlock := fun hs => hs

/-! ### the record law along every history

The controller is a parameter of every `Solver.run`, the user may replace the load function or re-declare a relation
between two runs; the element tuple and the self-locking flag are fixed when the powertrain is assembled.  So the
invariant is stated for a property `P` of records that the record law of the configuration in force implies
(`FrameInv`); `StInv c` is the case `P = RecOK c`. -/

def FrameInv (P : Rec → Prop) (sl : Bool) (s : St) : Prop :=
  (∀ r ∈ s.recs, P r) ∧ (s.locked = true → sl = true)

/-- the invariant carried along every history -/
def StInv (c : Cfg) (s : St) : Prop := (∀ r ∈ s.recs, RecOK c r) ∧ (s.locked = true → c.sl = true)

theorem frame_kept (P : Rec → Prop) (c : Cfg) (hP : ∀ r, RecOK c r → P r) : Kept c (FrameInv P c.sl) where
  compute := fun {s _ _} hs h => by
    obtain ⟨r, hr⟩ := compute_ok h
    exact ⟨hr.forall_recs.mpr ⟨hs.1, hP _ (hr.recOK hs.2)⟩, fun hl => (hr.recOK hs.2).lockedSL (hr.locked' ▸ hl)⟩
  integrate := fun _ hs => hs
  unlock := fun hs => ⟨hs.1, fun hl => by simp at hl⟩
  reset := fun hs h => by obtain ⟨r, rs, _, rfl⟩ := reset_eq_ok.mp h; exact ⟨by simp, hs.2⟩
  setInitial := fun _ _ hs => hs
  setPwm := fun _ _ hs => hs

theorem stInv_kept (c : Cfg) : Kept c (StInv c) := frame_kept (RecOK c) c fun _ h => h

theorem exec_frame (P : Rec → Prop) (c : Cfg) (hP : ∀ r, RecOK c r → P r) (ops : List Op) (s s' : St)
    (h : FrameInv P c.sl s) (he : exec c ops s = .ok s') : FrameInv P c.sl s' :=
  exec_kept (frame_kept P c hP) he h

theorem frameInv_of_nil {P : Rec → Prop} {sl : Bool} {s : St} (h : s.recs = []) (hl : s.locked = false) :
    FrameInv P sl s :=
  ⟨fun _ hr => (List.not_mem_nil (h ▸ hr)).elim, fun ht => Bool.noConfusion (hl.symm.trans ht)⟩

theorem init_inv (c : Cfg) (p v : Q) : StInv c (St.init p v) := frameInv_of_nil rfl rfl

/-- every record of every history satisfies the record law -/
theorem all_records_ok (c : Cfg) (ops : List Op) (s s' : St) (h : StInv c s)
    (he : exec c ops s = .ok s') : ∀ r ∈ s'.recs, RecOK c r :=
  (exec_kept (stInv_kept c) he h).1

theorem records_ok {c : Cfg} {ops : List Op} {p v : Q} {s' : St} (he : exec c ops (St.init p v) = .ok s') :
    ∀ r ∈ s'.recs, RecOK c r :=
  all_records_ok c ops _ s' (init_inv c p v) he

/-- segments of operations, each under its own configuration -/
def execSeg : List (Cfg × List Op) → St → Except Err St
  | [], s => .ok s
  | (c, ops) :: rest, s =>
    match exec c ops s with
    | .error e => .error e
    | .ok s' => execSeg rest s'

theorem execSeg_cons {c : Cfg} {ops : List Op} {rest : List (Cfg × List Op)} {s s' : St} :
    execSeg ((c, ops) :: rest) s = .ok s' ↔ ∃ s1, exec c ops s = .ok s1 ∧ execSeg rest s1 = .ok s' := by
  simp only [execSeg]; cases exec c ops s <;> simp

theorem execSeg_kept {P : St → Prop} : ∀ {segs : List (Cfg × List Op)} {s s' : St},
    (∀ seg ∈ segs, Kept seg.1 P) → execSeg segs s = .ok s' → P s → P s'
  | [], _, _, _, he, h => by simp only [execSeg, Except.ok.injEq] at he; exact he ▸ h
  | (c, ops) :: rest, _, _, hall, he, h => by
    obtain ⟨s1, h1, he⟩ := execSeg_cons.mp he
    exact execSeg_kept (fun seg hs => hall seg (List.mem_cons_of_mem _ hs)) he
      (exec_kept (hall (c, ops) List.mem_cons_self) h1 h)

/-- every record that survives a segmented schedule obeys the record law of one of the segments'
    configurations, provided all of them carry the powertrain's (fixed) self-locking flag -/
theorem execSeg_records (sl : Bool) (all : List Cfg) :
    ∀ (segs : List (Cfg × List Op)) (s s' : St),
      (∀ seg ∈ segs, seg.1 ∈ all ∧ seg.1.sl = sl) →
      FrameInv (fun r => ∃ c ∈ all, RecOK c r) sl s →
      execSeg segs s = .ok s' →
      FrameInv (fun r => ∃ c ∈ all, RecOK c r) sl s'
  | _, _, _, hall, h, he =>
    execSeg_kept (fun seg hs => (hall seg hs).2 ▸ frame_kept _ seg.1 fun _ hr => ⟨seg.1, (hall seg hs).1, hr⟩) he h

theorem segment_records_ok {sl : Bool} {all : List Cfg} {segs : List (Cfg × List Op)} {p v : Q} {s' : St}
    (hall : ∀ seg ∈ segs, seg.1 ∈ all ∧ seg.1.sl = sl) (he : execSeg segs (St.init p v) = .ok s') :
    ∀ r ∈ s'.recs, ∃ c ∈ all, RecOK c r :=
  (execSeg_records sl all segs _ s' hall (frameInv_of_nil rfl rfl) he).1

/-- the kinematic part of the record law does not depend on controller, load function or motor law:
    configurations that share the ratio list give the same coupling statement -/
theorem recOK_coupled_of_links (c c' : Cfg) (h : c.links.map (·.ratio) = c'.links.map (·.ratio)) (r : Rec)
    (hr : RecOK c r) : Coupled (c'.links.map (·.ratio)) r.pos ∧ Coupled (c'.links.map (·.ratio)) r.speed ∧
      Coupled (c'.links.map (·.ratio)) r.acc := by
  rw [← h]; exact hr.coupled

end Gearpy
