import Gearpy.Proofs.Units
import Gearpy.Generated.Tables
/-!
# Facts about the tables generated from the source: the unit table satisfies `Tbl.Good`, the Lewis
table starts at the minimum teeth number (re-proved on every run against the regenerated
`Gearpy/Generated/Tables.lean`)
-/
namespace Gearpy
open Kind

def allKinds : List Kind := [angPos, angle, angSpeed, angAcc, inertia, torque, time, timeInt, length, surface, force, stress, current]

theorem mem_allKinds (k : Kind) : k ∈ allKinds := by cases k <;> decide

theorem gen_factors_pos : ∀ k ∈ allKinds, (Gen.factors k).all (fun x => decide (0 < x)) = true := by
  decide +kernel

/-- a unit index beyond the table reads the default factor 1 -/
theorem getD_pos {l : List Q} (h : l.all (fun x => decide (0 < x)) = true) (u : Nat) : 0 < l.getD u 1 := by
  rw [List.getD_eq_getElem?_getD]
  cases hu : l[u]? with
  | none => exact one_pos
  | some x => exact of_decide_eq_true (List.all_eq_true.mp h x (List.mem_of_getElem? hu))

theorem gen_good : Gen.tbl.Good where
  pos k u := getD_pos (gen_factors_pos k (mem_allKinds k)) u
  si1 := by intro k; cases k <;> decide +kernel
  fam := by intro k u; cases k <;> rfl
  tolpos := by decide +kernel

theorem lewis_first : Gen.lewisTable.head?.map (·.1) = some (Gen.minTeeth : Q) := by decide +kernel

end Gearpy
