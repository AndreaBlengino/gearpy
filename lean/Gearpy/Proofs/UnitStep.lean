import Gearpy.Model.UnitStep
import Gearpy.Properties.C06
/-!
# The SI reading of the unit-level solver arithmetic is the SI-level arithmetic
-/
namespace Gearpy
open Kind

variable {T : Tbl}

theorem asQty_eq_ok {r : Except Err Val} {x : Qty} : asQty r = .ok x ↔ r = .ok (.q x) := by
  unfold asQty; split <;> simp [eq_comm]

/-- One statement of the solver arithmetic followed by the rest: it goes through iff the operation returned a
    quantity on which the rest goes through.  The functions of `Gearpy.Model.UnitStep` are nests of this `match`
    (up to unfolding), so their successful runs are taken apart one statement at a time with `.mp`. -/
theorem asQty_bind_eq_ok {β : Type} {r : Except Err Val} {k : Qty → Except Err β} {y : β} :
    (match asQty r with | .error e => (.error e : Except Err β) | .ok x => k x) = .ok y ↔
      ∃ x, r = .ok (.q x) ∧ k x = .ok y := by
  cases h : asQty r with
  | error e => simp [← asQty_eq_ok, h]
  | ok x => simp [← asQty_eq_ok, h]

/-- `_time_integration` in any units: SI position and speed follow the semi-implicit Euler update -/
theorem integrateU_si (g : T.Good) (pos speed acc dt p v : Qty)
    (h : integrateU T pos speed acc dt = .ok (p, v)) :
    siMag T v = siMag T speed + siMag T acc * siMag T dt ∧
    siMag T p = siMag T pos + (siMag T speed + siMag T acc * siMag T dt) * siMag T dt := by
  obtain ⟨dv, h1, h⟩ := asQty_bind_eq_ok.mp h
  obtain ⟨v', h2, h⟩ := asQty_bind_eq_ok.mp h
  obtain ⟨dp, h3, h⟩ := asQty_bind_eq_ok.mp h
  obtain ⟨p', h4, h⟩ := asQty_bind_eq_ok.mp h
  cases h
  rw [C06.add_si g _ _ _ h4, C06.mul_si g _ _ _ h3, C06.add_si g _ _ _ h2, C06.mul_si g _ _ _ h1]
  exact ⟨rfl, rfl⟩

/-- with the kinds the solver uses the unit-level update never raises -/
theorem integrateU_ok (pos speed acc dt : Qty) (hp : pos.kind = angPos) (hs : speed.kind = angSpeed)
    (ha : acc.kind = angAcc) (hd : baseOf dt.kind = time) : ∃ r, integrateU T pos speed acc dt = .ok r := by
  have ht : isInst dt.kind time = true := by simp [isInst, hd]
  obtain ⟨kp, vp, up⟩ := pos
  obtain ⟨ks, vs, us⟩ := speed
  obtain ⟨ka, va, ua⟩ := acc
  cases hp; cases hs; cases ha
  simp [integrateU, asQty, mul, add, ht, sameFamily, isSub, baseOf, mk, signOk, Except.map]

theorem transmitU_si (g : T.Good) (ratio : Q) (x r : Qty) (h : transmitU T ratio x = .ok r) :
    siMag T r = ratio * siMag T x := by
  rw [C06.mul_si g x (.n ratio) r (asQty_eq_ok.mp h)]; exact mul_comm _ _

theorem driveU_si (g : T.Good) (d r : Qty) (eff ratio : Q) (h : driveU T d eff ratio = .ok r) :
    siMag T r = siMag T d * eff * ratio := by
  obtain ⟨x, h1, h2⟩ := asQty_bind_eq_ok.mp h
  rw [C06.mul_si g _ _ _ (asQty_eq_ok.mp h2), C06.mul_si g _ _ _ h1]; rfl

theorem loadU_si (g : T.Good) (l r : Qty) (eff ratio : Q) (h : loadU T l eff ratio = .ok r) :
    siMag T r = siMag T l / eff / ratio := by
  obtain ⟨x, h1, h2⟩ := asQty_bind_eq_ok.mp h
  rw [C06.div_si g _ _ _ (asQty_eq_ok.mp h2), C06.div_si g _ _ _ h1]; rfl

theorem netU_si (g : T.Good) (d l r : Qty) (hk : d.kind = torque) (h : netU T d l = .ok r) :
    siMag T r = siMag T d - siMag T l :=
  C06.sub_si_partial g d l r (fun hK => by rw [hk] at hK; cases hK.1) (asQty_eq_ok.mp h)

end Gearpy
