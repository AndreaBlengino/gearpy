import Gearpy.Model.Units
import Gearpy.Proofs.Except
import Mathlib.Tactic.Ring
import Mathlib.Tactic.FieldSimp
import Mathlib.Tactic.Linarith
import Mathlib.Algebra.Order.Field.Rat
import Mathlib.Algebra.Order.Ring.Abs
/-!
# The unit-carrying model: each operator characterised once

Each operator of `Gearpy.Model.Units` is unfolded once, here, into a lemma that says when it succeeds and what it then
returns; the theorems about kinds, SI magnitudes and sign constraints (C05, C06, C19) are read off these.
-/

namespace Gearpy
open Kind

/-- what the proofs need from a factor table; `Gearpy.gen_good` (`Proofs/GenTable`) shows that the
    table generated from the source satisfies it -/
structure Tbl.Good (T : Tbl) : Prop where
  pos : ∀ k u, 0 < T.f k u
  si1 : ∀ k, T.f k (T.si k) = 1
  fam : ∀ k u, T.f k u = T.f (baseOf k) u
  tolpos : 0 < T.tol

variable {T : Tbl}

@[simp] theorem mk_eq_ok {k v u} {r : Qty} : mk k v u = .ok r ↔ signOk k v = true ∧ r = ⟨k, v, u⟩ := by
  unfold mk; split <;> simp [*, eq_comm]

@[simp] theorem mk_map_eq_ok {k v u} {r : Val} :
    (mk k v u).map Val.q = .ok r ↔ signOk k v = true ∧ r = .q ⟨k, v, u⟩ := by
  unfold mk; split <;> simp [Except.map, *, eq_comm]

@[simp] theorem mk_eq_err {k v u} {e : Err} : mk k v u = .error e ↔ signOk k v = false ∧ e = .valueE := by
  unfold mk; split <;> simp [*, eq_comm]

@[simp] theorem mk_map_eq_err {k v u} {e : Err} :
    (mk k v u).map Val.q = .error e ↔ signOk k v = false ∧ e = .valueE := by
  unfold mk; split <;> simp [Except.map, *, eq_comm]

theorem signOk_mul_pos (k : Kind) (v : Q) {c : Q} (hc : 0 < c) : signOk k (v * c) = signOk k v := by
  unfold signOk; simp only [mul_nonneg_iff_of_pos_right hc, mul_pos_iff_of_pos_right hc]

theorem sameFamily_iff (a b : Kind) : sameFamily a b = true ↔ baseOf a = baseOf b := by
  unfold sameFamily; simp

theorem baseOf_of_not_sub {a : Kind} (h : isSub a = false) : baseOf a = a := by
  unfold baseOf; split
  · cases h
  · cases h
  · rfl

theorem baseOf_idem (a : Kind) : baseOf (baseOf a) = baseOf a := by cases a <;> rfl

theorem fam_eq (g : T.Good) {a b : Kind} (h : baseOf a = baseOf b) (u : Nat) : T.f a u = T.f b u := by
  rw [g.fam a u, g.fam b u, h]

theorem conv_mul (g : T.Good) (o : Qty) (u : Nat) : conv T o u * T.f o.kind u = siMag T o := by
  unfold conv siMag
  split
  · rename_i h; rw [h]
  · exact div_mul_cancel₀ _ (g.pos o.kind u).ne'

theorem conv_mul_fam (g : T.Good) {k : Kind} {o : Qty} (h : baseOf k = baseOf o.kind) (u : Nat) :
    conv T o u * T.f k u = siMag T o := by
  rw [fam_eq g h u]; exact conv_mul g o u

theorem conv_eq_div (g : T.Good) (o : Qty) (u : Nat) : conv T o u = siMag T o / T.f o.kind u :=
  eq_div_of_mul_eq (g.pos o.kind u).ne' (conv_mul g o u)

theorem toSI_eq (g : T.Good) (o : Qty) : toSI T o = siMag T o := by
  unfold toSI; have := conv_mul g o (T.si o.kind); rwa [g.si1, mul_one] at this

/-- conversion multiplies by a positive ratio, so it keeps (and reflects) the sign constraint -/
theorem signOk_conv (g : T.Good) (a : Qty) (u : Nat) : signOk a.kind (conv T a u) = signOk a.kind a.value := by
  rw [conv_eq_div g, siMag, mul_div_assoc]
  exact signOk_mul_pos _ _ (div_pos (g.pos _ _) (g.pos _ _))

theorem qabs_eq_abs (x : Q) : qabs x = |x| := by
  unfold qabs; split
  · exact (abs_of_neg ‹_›).symm
  · exact (abs_of_nonneg (not_lt.mp ‹_›)).symm

theorem qabs_nonneg (x : Q) : 0 ≤ qabs x := qabs_eq_abs x ▸ abs_nonneg x

theorem qabs_le {x a : Q} : qabs x ≤ a ↔ -a ≤ x ∧ x ≤ a := qabs_eq_abs x ▸ abs_le

theorem qabs_lt {x a : Q} : qabs x < a ↔ -a < x ∧ x < a := qabs_eq_abs x ▸ abs_lt

theorem qabs_neg (x : Q) : qabs (-x) = qabs x := by rw [qabs_eq_abs, qabs_eq_abs, abs_neg]

theorem qabs_mul_pos (x f : Q) (hf : 0 < f) : qabs (x * f) = qabs x * f := by
  rw [qabs_eq_abs, qabs_eq_abs, abs_mul, abs_of_pos hf]

/-- The common body of `__add__` and `__sub__`.  The base-class body constructs `v` in the receiver's class
    (`f` is what becomes of a constructor error); the override of a sub-kind that was handed a base-kind operand
    then constructs `w` in the base class.  `+` has `w = v`; `−` has `v` the difference and `w` the sum (K2). -/
def addSub (f : Err → Err) (a o : Qty) (v w : Q) : Except Err Val :=
  if !sameFamily a.kind o.kind then .error .typeE else
  match mk a.kind v a.unit with
  | .error e => .error (f e)
  | .ok r =>
    if isSub a.kind then
      if o.kind == a.kind then .ok (.q r)
      else (mk (baseOf a.kind) w a.unit).map .q
    else .ok (.q r)

theorem add_eq_addSub (a o : Qty) :
    add T a (.q o) = addSub id a o (a.value + conv T o a.unit) (a.value + conv T o a.unit) := rfl

theorem sub_eq_addSub (a o : Qty) :
    sub T a (.q o) =
      addSub (fun _ => .valueE) a o (a.value - conv T o a.unit) (a.value + conv T o a.unit) := rfl

theorem addSub_eq_ok {f : Err → Err} {a o : Qty} {v w : Q} {r : Val} :
    addSub f a o v w = .ok r ↔
      baseOf a.kind = baseOf o.kind ∧ signOk a.kind v = true ∧
        if isSub a.kind = true ∧ o.kind ≠ a.kind
        then signOk (baseOf a.kind) w = true ∧ r = .q ⟨baseOf a.kind, w, a.unit⟩
        else r = .q ⟨a.kind, v, a.unit⟩ := by
  unfold addSub
  rw [ite_error_eq_ok, Bool.not_eq_true', Bool.not_eq_false, sameFamily_iff]
  refine and_congr_right fun _ => ?_
  by_cases hv : signOk a.kind v = true
  · rw [show mk a.kind v a.unit = .ok ⟨a.kind, v, a.unit⟩ from if_pos hv]
    by_cases hs : isSub a.kind = true
    · by_cases he : o.kind = a.kind
      · simp [hv, hs, he, eq_comm]
      · simp [hv, hs, he]
    · simp [hv, hs, eq_comm]
  · rw [show mk a.kind v a.unit = .error .valueE from if_neg hv]; simp [hv]

/-- the products of two quantities the code accepts (`TimeInterval * …` raises, see `Gearpy.mul`) -/
def mulKind : Kind → Kind → Option Kind
  | angSpeed, time | angSpeed, timeInt | time, angSpeed => some angPos
  | angAcc, time | angAcc, timeInt | time, angAcc => some angSpeed
  | length, length => some surface
  | _, _ => none

theorem mul_qty (a o : Qty) : mul T a (.q o) =
    match mulKind a.kind o.kind with
    | some k => (mk k (toSI T a * toSI T o) (T.si k)).map .q
    | none => .error .typeE := by
  obtain ⟨ka, va, ua⟩ := a
  obtain ⟨ko, vo, uo⟩ := o
  -- only these receivers look at the operand's kind
  cases ka
  case angSpeed | angAcc | time | length => cases ko <;> rfl
  all_goals rfl

theorem mul_num (a : Qty) (x : Q) : mul T a (.n x) =
    if a.kind == angle && decide (x < 0) then .error .valueE
    else if (a.kind == inertia || a.kind == timeInt) && decide (x ≤ 0) then .error .valueE
    else (mk a.kind (a.value * x) a.unit).map .q := by
  obtain ⟨ka, va, ua⟩ := a
  cases ka <;> rfl

theorem mul_qty_eq_ok {a o : Qty} {r : Val} : mul T a (.q o) = .ok r ↔
    ∃ k, mulKind a.kind o.kind = some k ∧ signOk k (toSI T a * toSI T o) = true ∧
      r = .q ⟨k, toSI T a * toSI T o, T.si k⟩ := by
  rw [mul_qty]
  cases mulKind a.kind o.kind <;> simp

theorem mul_num_eq_ok {a : Qty} {x : Q} {r : Val} : mul T a (.n x) = .ok r ↔
    ¬ (a.kind = angle ∧ x < 0) ∧ ¬ ((a.kind = inertia ∨ a.kind = timeInt) ∧ x ≤ 0) ∧
      signOk a.kind (a.value * x) = true ∧ r = .q ⟨a.kind, a.value * x, a.unit⟩ := by
  rw [mul_num, ite_error_eq_ok, ite_error_eq_ok, mk_map_eq_ok]
  simp only [Bool.and_eq_true, Bool.or_eq_true, beq_iff_eq, decide_eq_true_eq]

/-- the quotients of two quantities of different families the code accepts -/
def divKind : Kind → Kind → Option Kind
  | torque, inertia => some angAcc
  | torque, length => some force
  | force, surface => some stress
  | _, _ => none

/-- the `isinstance` tests of `__truediv__` amount to the family test -/
theorem sameFamily_and_isInst (a o : Kind) :
    (sameFamily a o && (isInst o a || isInst o (baseOf a))) = sameFamily a o := by
  unfold sameFamily isInst
  by_cases h : baseOf a = baseOf o <;> simp [h]

theorem div_qty (a o : Qty) : div T a (.q o) =
    if o.value = 0 then .error .zeroDiv
    else if sameFamily a.kind o.kind then .ok (.n (a.value / conv T o a.unit))
    else match divKind a.kind o.kind with
      | some k => (mk k (toSI T a / toSI T o) (T.si k)).map .q
      | none => .error .typeE := by
  obtain ⟨ka, va, ua⟩ := a
  obtain ⟨ko, vo, uo⟩ := o
  simp only [div, sameFamily_and_isInst, beq_iff_eq]
  cases ka
  case torque | force => cases ko <;> rfl
  all_goals rfl

theorem div_qty_eq_ok {a o : Qty} {r : Val} : div T a (.q o) = .ok r ↔ o.value ≠ 0 ∧
    if baseOf a.kind = baseOf o.kind then r = .n (a.value / conv T o a.unit)
    else ∃ k, divKind a.kind o.kind = some k ∧ signOk k (toSI T a / toSI T o) = true ∧
      r = .q ⟨k, toSI T a / toSI T o, T.si k⟩ := by
  rw [div_qty, ite_error_eq_ok]
  simp only [sameFamily_iff]
  refine and_congr_right fun _ => ?_
  split
  · simp [eq_comm]
  · cases divKind a.kind o.kind <;> simp

theorem div_num_eq_ok {a : Qty} {x : Q} {r : Val} : div T a (.n x) = .ok r ↔
    x ≠ 0 ∧ signOk a.kind (a.value / x) = true ∧ r = .q ⟨a.kind, a.value / x, a.unit⟩ := by
  simp only [div, beq_iff_eq, ite_error_eq_ok, mk_map_eq_ok, ne_eq]

/-- scaling both operands and the tolerance by a positive factor does not change a comparison:
    comparing raw values in the receiver's unit = comparing SI magnitudes with the tolerance
    expressed in SI -/
theorem cmpRaw_scale (tol f x y : Q) (c : Cmp) (e : Bool) (hf : 0 < f) :
    cmpRaw (tol * f) c e (x * f) (y * f) = cmpRaw tol c e x y := by
  unfold cmpRaw
  -- every test compares two multiples of `f`
  simp only [← sub_mul, qabs_mul_pos _ _ hf, ← neg_mul, mul_lt_mul_iff_of_pos_right hf,
    mul_le_mul_iff_of_pos_right hf, bne, Bool.beq_eq_decide_eq, mul_left_inj' hf.ne']

theorem cmpRaw_swap (t : Q) (c : Cmp) (e : Bool) (x y : Q) : cmpRaw t (swapCmp c) e y x = cmpRaw t c e x y := by
  unfold cmpRaw
  cases e
  · simp only [Bool.false_eq_true, if_false, ← neg_sub x y, qabs_neg]
    cases c <;> simp only [swapCmp, neg_lt_neg_iff, neg_le_neg_iff, lt_neg, neg_le]
  · cases c <;> simp only [swapCmp, if_true, eq_comm, bne, Bool.beq_eq_decide_eq]

/-- one comparison method is a function of the two SI magnitudes, of whether the operands carry the
    same unit, and of the tolerance expressed in SI through the receiver's unit -/
theorem cmpDirect_si (g : T.Good) (c : Cmp) (a o : Qty) (hf : baseOf a.kind = baseOf o.kind) :
    cmpDirect T c a o = cmpRaw (T.tol * T.f a.kind a.unit) c (a.unit == o.unit) (siMag T a) (siMag T o) := by
  unfold cmpDirect
  rw [← cmpRaw_scale T.tol _ a.value _ c _ (g.pos a.kind a.unit), conv_mul_fam g hf]
  rfl

/-- the operand whose method actually runs (CPython's reflected dispatch), and the operator it is asked -/
def effLeft (a o : Qty) : Qty := if reflected a.kind o.kind then o else a
def effRight (a o : Qty) : Qty := if reflected a.kind o.kind then a else o
def effCmp (c : Cmp) (a o : Qty) : Cmp := if reflected a.kind o.kind then swapCmp c else c

theorem effLeft_eq (a o : Qty) : effLeft a o = a ∨ effLeft a o = o := by
  unfold effLeft; split
  · exact .inr rfl
  · exact .inl rfl

theorem cmp_eq_ok {c : Cmp} {a o : Qty} {b : Bool} : cmp T c a (.q o) = .ok b ↔
    baseOf a.kind = baseOf o.kind ∧ b = cmpDirect T (effCmp c a o) (effLeft a o) (effRight a o) := by
  unfold cmp effCmp effLeft effRight
  rw [ite_error_eq_ok, Bool.not_eq_true', Bool.not_eq_false, sameFamily_iff]
  split <;> simp only [Except.ok.injEq, eq_comm]

/-- a comparison between two quantities is a function of their SI magnitudes, of whether they
    carry the same unit, and of the tolerance expressed in SI through the unit of the operand
    whose method runs -/
theorem cmp_si (g : T.Good) (c : Cmp) (a o : Qty) (b : Bool) (h : cmp T c a (.q o) = .ok b) :
    b = cmpRaw (T.tol * T.f (effLeft a o).kind (effLeft a o).unit) (effCmp c a o)
          ((effLeft a o).unit == (effRight a o).unit) (siMag T (effLeft a o)) (siMag T (effRight a o)) := by
  obtain ⟨hf, rfl⟩ := cmp_eq_ok.mp h
  refine cmpDirect_si g _ _ _ ?_
  unfold effLeft effRight; split
  · exact hf.symm
  · exact hf

/-- … so the reflected dispatch changes one thing only: in whose unit the tolerance is read -/
theorem cmp_tol (g : T.Good) (c : Cmp) (a o : Qty) (b : Bool) (h : cmp T c a (.q o) = .ok b) :
    b = cmpRaw (T.tol * T.f (effLeft a o).kind (effLeft a o).unit) c (a.unit == o.unit)
          (siMag T a) (siMag T o) := by
  rw [cmp_si g c a o b h]
  unfold effLeft effRight effCmp; split
  · rw [cmpRaw_swap, BEq.comm (a := o.unit)]
  · rfl

end Gearpy
