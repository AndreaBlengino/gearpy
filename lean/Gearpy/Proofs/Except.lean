/-!
# `Except`-valued definitions: when they succeed

The model writes Python's `raise` as `Except.error`; these lemmas turn "the call returned `.ok r`" into what had to
hold for that.
-/

namespace Gearpy

/-- A chain of `if c then .error e else …` succeeds exactly when every `c` fails: rewriting with this
    turns a validation into the conjunction of its tests. -/
theorem ite_error_eq_ok {ε α : Type} {c : Prop} [Decidable c] {e : ε} {x : Except ε α} {r : α} :
    (if c then .error e else x) = .ok r ↔ ¬ c ∧ x = .ok r := by split <;> simp [*]

theorem map_eq_ok {ε α β : Type} {f : α → β} {x : Except ε α} {b : β} (h : x.map f = .ok b) :
    ∃ a, x = .ok a ∧ f a = b := by
  cases x with
  | error e => cases h
  | ok a => exact ⟨a, rfl, Except.ok.inj h⟩

theorem exists_error_of_ne_ok {ε α : Type} {x : Except ε α} (h : ∀ a, x ≠ .ok a) : ∃ e, x = .error e := by
  cases x with
  | error e => exact ⟨e, rfl⟩
  | ok a => exact absurd rfl (h a)

end Gearpy
