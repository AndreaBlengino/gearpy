import Gearpy.Model.Solver
import Mathlib.Tactic.Ring
import Mathlib.Algebra.Order.Field.Rat
/-!
# The three laws along the chain, as predicates on the recorded lists

`Coupled`, `DriveOK`, `LoadOK` say that adjacent entries obey the kinematic, driving-torque and load-torque law;
`upstream`, `driveDown`, `loadUp` of the model produce such lists; `coupled_get`, `drive_get`, `load_get` read the
predicates index by index (and give the lengths).
-/

namespace Gearpy

/-- adjacent elements are coupled through the ratio list: `v_{i} = r_{i+1} · v_{i+1}` -/
def Coupled : List Q → List Q → Prop
  | [], [_] => True
  | r :: rs, a :: b :: vs => a = r * b ∧ Coupled rs (b :: vs)
  | _, _ => False

/-- the cons equation of `upstream` without its dead `[]` branch -/
theorem upstream_cons (r : Q) (rs : List Q) (x : Q) :
    ∃ v vs, upstream rs x = v :: vs ∧ upstream (r :: rs) x = r * v :: v :: vs := by
  cases h : upstream rs x with
  | nil =>
    cases rs with
    | nil => simp [upstream] at h
    | cons _ _ => simp only [upstream] at h; split at h <;> simp at h
  | cons v vs => exact ⟨v, vs, rfl, by simp [upstream, h]⟩

theorem upstream_coupled (rs : List Q) (x : Q) : Coupled rs (upstream rs x) := by
  induction rs with
  | nil => simp [upstream, Coupled]
  | cons r rs ih =>
    obtain ⟨v, vs, h, h'⟩ := upstream_cons r rs x
    rw [h'];  rw [h] at ih; exact ⟨rfl, ih⟩

theorem zeros_coupled (rs : List Q) : Coupled rs (zeros (rs.length + 1)) := by
  induction rs with
  | nil => simp [zeros, Coupled]
  | cons r rs ih =>
    simp only [zeros, List.length_cons, List.replicate_succ] at *
    exact ⟨by ring, ih⟩

/-- index-by-index reading of `Coupled` -/
theorem coupled_get {rs vs : List Q} (h : Coupled rs vs) :
    vs.length = rs.length + 1 ∧ ∀ i (hi : i < rs.length) (hj : i + 1 < vs.length),
      vs[i]'(by omega) = rs[i] * vs[i+1] := by
  induction rs generalizing vs with
  | nil => match vs, h with | [_], _ => simp
  | cons r rs ih =>
    match vs, h with
    | a :: b :: vs', ⟨h1, h2⟩ =>
      obtain ⟨hl, hg⟩ := ih h2
      refine ⟨by simp [hl], fun i hi hj => ?_⟩
      cases i with
      | zero => exact h1
      | succ k => exact hg k (by simpa using hi) (by simpa using hj)

theorem upstream_length (rs : List Q) (x : Q) : (upstream rs x).length = rs.length + 1 :=
  (coupled_get (upstream_coupled rs x)).1

theorem upstream_getLast (rs : List Q) (x : Q) : (upstream rs x).getLast? = some x := by
  induction rs with
  | nil => rfl
  | cons r rs ih =>
    obtain ⟨v, vs, h, h'⟩ := upstream_cons r rs x
    rw [h', List.getLast?_cons_cons, ← h, ih]

/-- driving-torque law along the chain: `d_{i+1} = d_i · η_{i+1} · r_{i+1}` -/
def DriveOK : List Link → List Q → Prop
  | [], [_] => True
  | l :: ls, a :: b :: vs => b = a * l.eff * l.ratio ∧ DriveOK ls (b :: vs)
  | _, _ => False

theorem driveDown_ok (ls : List Link) (d : Q) : DriveOK ls (driveDown ls d) ∧ (driveDown ls d).head? = some d := by
  induction ls generalizing d with
  | nil => simp [driveDown, DriveOK]
  | cons l ls ih =>
    obtain ⟨h1, h2⟩ := ih (d * l.eff * l.ratio)
    cases hd : driveDown ls (d * l.eff * l.ratio) with
    | nil => simp [hd] at h2
    | cons b vs =>
      rw [hd] at h1 h2
      simp only [List.head?_cons, Option.some.injEq] at h2
      simp only [driveDown, hd, List.head?_cons, and_true]
      exact ⟨h2, h1⟩

theorem drive_get {ls : List Link} {ds : List Q} (h : DriveOK ls ds) :
    ds.length = ls.length + 1 ∧ ∀ i (hi : i < ls.length) (hj : i + 1 < ds.length),
      ds[i+1] = ds[i]'(by omega) * ls[i].eff * ls[i].ratio := by
  induction ls generalizing ds with
  | nil => match ds, h with | [_], _ => simp
  | cons l ls ih =>
    match ds, h with
    | a :: b :: ds', ⟨h1, h2⟩ =>
      obtain ⟨hl, hg⟩ := ih h2
      refine ⟨by simp [hl], fun i hi hj => ?_⟩
      cases i with
      | zero => exact h1
      | succ k => exact hg k (by simpa using hi) (by simpa using hj)

/-- load-torque law along the chain: `l_i = l_{i+1} / η_{i+1} / r_{i+1}` -/
def LoadOK : List Link → List Q → Prop
  | [], [_] => True
  | l :: ls, a :: b :: vs => a = b / l.eff / l.ratio ∧ LoadOK ls (b :: vs)
  | _, _ => False

theorem loadUp_cons (l : Link) (ls : List Link) (x : Q) :
    ∃ v vs, loadUp ls x = v :: vs ∧ loadUp (l :: ls) x = v / l.eff / l.ratio :: v :: vs := by
  cases h : loadUp ls x with
  | nil =>
    cases ls with
    | nil => simp [loadUp] at h
    | cons _ _ => simp only [loadUp] at h; split at h <;> simp at h
  | cons v vs => exact ⟨v, vs, rfl, by simp [loadUp, h]⟩

theorem loadUp_ok (ls : List Link) (x : Q) : LoadOK ls (loadUp ls x) ∧ (loadUp ls x).getLast? = some x := by
  induction ls with
  | nil => simp [loadUp, LoadOK]
  | cons l ls ih =>
    obtain ⟨v, vs, h, h'⟩ := loadUp_cons l ls x
    rw [h'];  rw [h] at ih
    exact ⟨⟨rfl, ih.1⟩, by rw [List.getLast?_cons_cons]; exact ih.2⟩

theorem load_get {ls : List Link} {xs : List Q} (h : LoadOK ls xs) :
    xs.length = ls.length + 1 ∧ ∀ i (hi : i < ls.length) (hj : i + 1 < xs.length),
      xs[i]'(by omega) = xs[i+1] / ls[i].eff / ls[i].ratio := by
  induction ls generalizing xs with
  | nil => match xs, h with | [_], _ => simp
  | cons l ls ih =>
    match xs, h with
    | a :: b :: xs', ⟨h1, h2⟩ =>
      obtain ⟨hl, hg⟩ := ih h2
      refine ⟨by simp [hl], fun i hi hj => ?_⟩
      cases i with
      | zero => exact h1
      | succ k => exact hg k (by simpa using hi) (by simpa using hj)

theorem lastD_of_getLast? {l : List Q} {x : Q} (h : l.getLast? = some x) : lastD l = x := by
  unfold lastD; rw [List.getLastD_eq_getLast?, h]; rfl

theorem lastD_zeros (n : Nat) : lastD (zeros (n+1)) = 0 := by
  unfold lastD zeros; simp [List.getLastD_eq_getLast?, List.getLast?_replicate]

theorem lastD_clamped (b : Bool) (n : Nat) (rs : List Q) (x : Q) :
    lastD (if b then zeros (n + 1) else upstream rs x) = if b then 0 else x := by
  split
  · exact lastD_zeros n
  · exact lastD_of_getLast? (upstream_getLast rs x)

end Gearpy
