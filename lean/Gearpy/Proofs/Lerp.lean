import Gearpy.Model.Basic
import Mathlib.Algebra.Order.Field.Basic
import Mathlib.Algebra.Order.Field.Rat
import Mathlib.Order.Interval.Set.UnorderedInterval
import Mathlib.Tactic.Ring
/-!
# The arithmetic of one segment of a linear interpolation

`y0 + (y1 - y0) * (t - t0) / (t1 - t0)` is the expression both `interpClamp` (Lewis factor, C09) and `interp`
(snapshot, C18) evaluate between two knots; these lemmas are about that expression with all six numbers variables.
-/

namespace Gearpy

/-- the position of `t` in the segment from `t0` to `t1`, as a fraction of its length -/
theorem lerp_frac {t0 t1 t : Q} (h0 : t0 < t) (h1 : t < t1) :
    0 < (t - t0) / (t1 - t0) ∧ (t - t0) / (t1 - t0) < 1 :=
  have hd : 0 < t1 - t0 := sub_pos.2 (h0.trans h1)
  ⟨div_pos (sub_pos.2 h0) hd, (div_lt_one hd).2 (sub_lt_sub_right h1 t0)⟩

/-- a point of the segment from `y0` to `y1` lies between the two, whichever is larger -/
theorem lerp_mem_uIcc (y0 y1 : Q) {t0 t1 t : Q} (h0 : t0 < t) (h1 : t < t1) :
    y0 + (y1 - y0) * (t - t0) / (t1 - t0) ∈ Set.uIcc y0 y1 := by
  obtain ⟨hs0, hs1⟩ := lerp_frac h0 h1
  rw [mul_div_assoc, Set.mem_uIcc]
  rcases le_total y0 y1 with hy | hy
  · have hd := sub_nonneg.2 hy
    exact .inl ⟨le_add_of_nonneg_right (mul_nonneg hd hs0.le),
      le_sub_iff_add_le'.1 (mul_le_of_le_one_right hd hs1.le)⟩
  · have hd := sub_nonpos.2 hy
    exact .inr ⟨sub_le_iff_le_add'.1 (le_mul_of_le_one_right hd hs1.le),
      add_le_of_nonpos_right (mul_nonpos_of_nonpos_of_nonneg hd hs0.le)⟩

/-- strictly inside a segment whose end values differ, the interpolated value is neither of them -/
theorem lerp_ne {t0 t1 t y0 y1 : Q} (h0 : t0 < t) (h1 : t < t1) (hy : y0 ≠ y1) :
    y0 + (y1 - y0) * (t - t0) / (t1 - t0) ≠ y0 ∧ y0 + (y1 - y0) * (t - t0) / (t1 - t0) ≠ y1 := by
  obtain ⟨hs0, hs1⟩ := lerp_frac h0 h1
  have hd : y1 - y0 ≠ 0 := sub_ne_zero.2 hy.symm
  -- with `s` the fraction, `y0 + (y1 - y0) * s` is `y0` only for `s = 0` and `y1` only for `s = 1`
  rw [mul_div_assoc, Ne, Ne, add_eq_left, ← eq_sub_iff_add_eq', mul_eq_left₀ hd]
  exact ⟨mul_ne_zero hd hs0.ne', hs1.ne⟩

theorem lerp_offset (t0 t1 y0 y1 δ : Q) :
    y0 + (y1 - y0) * (t0 + δ - t0) / (t1 - t0) = y0 + δ * ((y1 - y0) / (t1 - t0)) := by
  ring

end Gearpy
