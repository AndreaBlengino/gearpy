import Gearpy.Model.Grid
import Gearpy.Proofs.Units
import Gearpy.Model.Solver
import Mathlib.Algebra.Order.Floor.Ring
import Mathlib.Data.Rat.Floor
import Mathlib.Tactic.Positivity
/-!
# The unit-carrying time axis: its SI reading does not depend on the units used
-/

namespace Gearpy
open Kind

variable {T : Tbl}

/-- a time quantity: `Time` or its sub-kind `TimeInterval` -/
def IsTime (q : Qty) : Prop := baseOf q.kind = time

theorem time_factor (g : T.Good) {q : Qty} (h : IsTime q) (u : Nat) : T.f q.kind u = T.f time u :=
  fam_eq g (b := time) h u

/-- `simulation_time / time_discretization` is the ratio of the SI magnitudes -/
theorem stepRatio_si (g : T.Good) (dt sim : Qty) (hd : IsTime dt) (hs : IsTime sim) :
    stepRatio T dt sim = siMag T sim / siMag T dt := by
  unfold stepRatio
  rw [conv_eq_div g dt sim.unit, time_factor g hd, ← time_factor g hs sim.unit]
  have := ne_of_gt (g.pos sim.kind sim.unit)
  simp only [siMag]
  field_simp

theorem nSteps_si (g : T.Good) (dt sim : Qty) (hd : IsTime dt) (hs : IsTime sim) :
    nSteps T dt sim = (siMag T sim / siMag T dt + gridGuard).floor.toNat := by
  unfold nSteps; rw [stepRatio_si g dt sim hd hs]

/-- SI reading of the instants a run appends: the grid `t₀ + i·dt` in SI, whatever units `dt`,
    `T` and the previous final instant are expressed in -/
theorem gridU_si (g : T.Good) (last : Option Qty) (dt sim : Qty) (hd : IsTime dt)
    (hl : ∀ l, last = some l → IsTime l) :
    (gridU T last dt sim).map (siMag T) =
      grid ((last.map (siMag T)).getD 0) (siMag T dt) (nSteps T dt sim) := by
  unfold gridU grid
  rw [List.map_map]
  refine List.map_congr_left fun i _ => ?_
  have ht : T.f time dt.unit = T.f dt.kind dt.unit := (time_factor g hd dt.unit).symm
  cases last with
  | none => simp only [Function.comp, siMag, Option.map_none, Option.getD_none, ht]; ring
  | some l =>
    have hc := conv_mul g l dt.unit
    rw [time_factor g (hl l rfl), ht] at hc
    simp only [Function.comp, siMag, Option.map_some, Option.getD_some, ht, add_mul] at hc ⊢
    rw [hc]; ring

end Gearpy
