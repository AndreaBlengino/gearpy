import Gearpy.Proofs.Solver
/-!
# Whole histories: the recorded time axis and consecutive records

`Pairs R`: `R` holds between all consecutive records.  If every step establishes it between the last record and the
new one (from states satisfying an invariant `I`), it holds along loops, runs and schedules.
-/

namespace Gearpy


theorem grid_append (t0 dt : Q) (m n : Nat) :
    grid t0 dt (m + n) = grid t0 dt m ++ grid (t0 + (m : Q) * dt) dt n := by
  unfold grid
  rw [List.range_add, List.map_append, List.map_map]
  congr 1
  apply List.map_congr_left
  intro i _
  simp only [Function.comp]
  push_cast
  ring

theorem grid_length (t0 dt : Q) (n : Nat) : (grid t0 dt n).length = n := by simp [grid]

theorem grid_getLast (t0 dt : Q) (n : Nat) : (grid t0 dt (n+1)).getLast? = some (t0 + ((n+1 : Nat) : Q) * dt) := by
  unfold grid; rw [List.range_succ]; simp

theorem loop_append (c : Cfg) (dt : Q) (ts us : List Q) (s : St) :
    loop c dt none (ts ++ us) s =
      match loop c dt none ts s with
      | .error e => .error e
      | .ok s' => loop c dt none us s' := by
  induction ts generalizing s with
  | nil => simp [loop]
  | cons t ts ih =>
    simp only [List.cons_append, loop]
    cases h : stepAt c dt s t with
    | error e => simp
    | ok s1 => simp only [stopNow]; simpa using ih s1

theorem stepAt_recs {c : Cfg} {dt t : Q} {s s' : St} (h : stepAt c dt s t = .ok s') :
    ∃ r, s'.recs = s.recs ++ [r] ∧ r.time = t := by
  obtain ⟨r, hr⟩ := stepAt_ok h
  exact ⟨r, hr.recs, hr.time⟩

theorem loop_recs_append {c : Cfg} {dt : Q} {stop} {ts : List Q} {s s' : St} (h : loop c dt stop ts s = .ok s') :
    ∃ new, s'.recs = s.recs ++ new := by
  refine loop_induct (P := fun s1 => ∃ new, s1.recs = s.recs ++ new) ?_ h ⟨[], by simp⟩
  rintro s1 t s2 ⟨new, hn⟩ h12
  obtain ⟨r, hr, _⟩ := stepAt_recs h12
  exact ⟨new ++ [r], by rw [hr, hn, List.append_assoc]⟩

theorem run_fresh_head {c : Cfg} {dt : Q} {n : Nat} {stop} {s s' : St} (h0 : s.recs = [])
    (h : run c dt n stop s = .ok s') :
    ∃ r0 s0 rest, Computed c { s with locked := false } 0 r0 s0 ∧ s'.recs = r0 :: rest := by
  obtain ⟨r0, s0, hr, h⟩ := run_fresh_ok h0 h
  obtain ⟨rest, hn⟩ := loop_recs_append h
  exact ⟨r0, s0, rest, hr, by rw [hn, hr.recs]; simp [h0]⟩

/-- the time axis recorded by a loop without stop is the old axis followed by the grid -/
theorem loop_times (c : Cfg) (dt : Q) (ts : List Q) (s s' : St)
    (h : loop c dt none ts s = .ok s') : s'.recs.map (·.time) = s.recs.map (·.time) ++ ts := by
  induction ts generalizing s with
  | nil => simp only [loop, Except.ok.injEq] at h; simp [← h]
  | cons t ts ih =>
    obtain ⟨s1, h1, h⟩ := loop_cons.mp h
    obtain ⟨r, hr, ht⟩ := stepAt_recs h1
    rw [ih s1 (by simpa [stopNow] using h), hr]; simp [ht]

theorem loop_lastTime (c : Cfg) (dt : Q) (ts : List Q) (s s' : St) (hne : ts ≠ [])
    (h : loop c dt none ts s = .ok s') : lastTime s' = ts.getLast? := by
  have := congrArg List.getLast? (loop_times c dt ts s s' h)
  rw [List.getLast?_map, List.getLast?_append, List.getLast?_eq_some_getLast hne] at this
  rw [List.getLast?_eq_some_getLast hne]; exact this

theorem loop_grid_lastTime {c : Cfg} {dt t0 : Q} {k : Nat} {s s' : St}
    (h : loop c dt none (grid t0 dt (k + 1)) s = .ok s') : lastTime s' = some (t0 + ((k + 1 : Nat) : Q) * dt) := by
  have hne : grid t0 dt (k + 1) ≠ [] := fun h => by simpa [grid_length] using congrArg List.length h
  rw [loop_lastTime c dt _ s s' hne h, grid_getLast]


/-- `R` holds between every two consecutive entries -/
def Pairs (R : Rec → Rec → Prop) : List Rec → Prop
  | a :: b :: rest => R a b ∧ Pairs R (b :: rest)
  | _ => True

theorem pairs_get {R : Rec → Rec → Prop} : ∀ {l : List Rec}, Pairs R l → ∀ i (h : i + 1 < l.length), R l[i] l[i + 1]
  | _ :: _ :: _, ⟨h1, _⟩, 0, _ => h1
  | _ :: _ :: _, ⟨_, h2⟩, i + 1, h => pairs_get h2 i (by simpa using h)
  | [], _, _, h | [_], _, _, h => by simp at h

theorem pairs_append (R : Rec → Rec → Prop) : ∀ (l new : List Rec),
    Pairs R l → Pairs R (l.getLast?.toList ++ new) → Pairs R (l ++ new)
  | [], new, _, h => by simpa using h
  | [a], new, _, h => by simpa using h
  | a :: b :: rest, new, h1, h2 => by
    rw [List.getLast?_cons_cons] at h2
    exact ⟨h1.1, pairs_append R (b :: rest) new h1.2 h2⟩

theorem pairs_snoc {R : Rec → Rec → Prop} {l : List Rec} {b : Rec} (hl : Pairs R l)
    (hb : ∀ a, l.getLast? = some a → R a b) : Pairs R (l ++ [b]) := by
  refine pairs_append R l [b] hl ?_
  cases h : l.getLast? with
  | none => trivial
  | some a => exact ⟨hb a h, trivial⟩

theorem getLast?_toList_append {α} (l new : List α) : (l.getLast?.toList ++ new).getLast? = (l ++ new).getLast? := by
  rw [List.getLast?_append, List.getLast?_append]; cases l.getLast? <;> rfl

/-- the live attributes are those of the last record (true after every `compute`; broken only by the
    user changing attributes between runs) -/
def Live (s : St) : Prop :=
  ∀ a, s.recs.getLast? = some a →
    s.pwm = a.pwm ∧ s.locked = a.locked ∧ s.pos = lastD a.pos ∧ s.speed = lastD a.speed ∧
    s.acc = lastD a.acc ∧ s.mtorque = some (a.torque.headD 0)

def Inv2 (c : Cfg) (s : St) : Prop := StInv c s ∧ Live s

theorem live_of_nil (s : St) (h : s.recs = []) : Live s := by
  intro a ha; rw [h] at ha; simp at ha

theorem Computed.live {c : Cfg} {s s' : St} {t : Q} {r : Rec} (h : Computed c s t r s') : Live s' := by
  intro a ha
  obtain rfl : r = a := by simpa [h.getLast] using ha
  exact ⟨h.pwm', h.locked', h.lastPos.symm, h.lastSpeed.symm, h.lastAcc.symm, h.mtorque'⟩

theorem compute_live {c : Cfg} {s s' : St} {t : Q} (h : compute c s t = .ok s') : Live s' :=
  let ⟨_, hr⟩ := compute_ok h; hr.live

theorem compute_inv2 (c : Cfg) (s s' : St) (t : Q) (h : StInv c s) (hc : compute c s t = .ok s') : Inv2 c s' :=
  ⟨(stInv_kept c).compute h hc, compute_live hc⟩

theorem init_inv2 (c : Cfg) (p v : Q) : Inv2 c (St.init p v) := ⟨init_inv c p v, live_of_nil _ rfl⟩

/-- If every step from a state satisfying `I` re-establishes `I` and relates the last record to the new one by `R`,
    then along a loop `R` holds between all consecutive records, the last old one included. -/
theorem loop_pairs_of {c : Cfg} {dt : Q} {stop} {I : St → Prop} {R : Rec → Rec → Prop}
    (hstep : ∀ s t s', I s → stepAt c dt s t = .ok s' →
      I s' ∧ ∃ b, s'.recs = s.recs ++ [b] ∧ ∀ a, s.recs.getLast? = some a → R a b)
    {ts : List Q} {s s' : St} (h : loop c dt stop ts s = .ok s') (hs : I s) :
    ∃ new, s'.recs = s.recs ++ new ∧ Pairs R (s.recs.getLast?.toList ++ new) ∧ I s' := by
  refine loop_induct (P := fun s1 => ∃ new, s1.recs = s.recs ++ new ∧ Pairs R (s.recs.getLast?.toList ++ new) ∧ I s1)
    ?_ h ⟨[], by simp, by cases s.recs.getLast? <;> trivial, hs⟩
  rintro s1 t s2 ⟨new, hn, hp, hi⟩ h12
  obtain ⟨hi2, b, hb, hr⟩ := hstep s1 t s2 hi h12
  refine ⟨new ++ [b], by rw [hb, hn, List.append_assoc], ?_, hi2⟩
  rw [← List.append_assoc]
  exact pairs_snoc hp fun a ha => hr a (by rw [hn, ← getLast?_toList_append]; exact ha)

/-- the same for a run: continued (pairs include the last old record) or fresh (the first record comes from the
    initial `compute`, which must establish `I`) -/
theorem run_pairs_of {c : Cfg} {dt : Q} {n : Nat} {stop} {I : St → Prop} {R : Rec → Rec → Prop}
    (hstep : ∀ s t s', I s → stepAt c dt s t = .ok s' →
      I s' ∧ ∃ b, s'.recs = s.recs ++ [b] ∧ ∀ a, s.recs.getLast? = some a → R a b)
    (hinit : ∀ s s0, I s → s.recs = [] → compute c { s with locked := false } 0 = .ok s0 → I s0)
    {s s' : St} (h : run c dt n stop s = .ok s') (hs : I s) :
    ∃ new, s'.recs = s.recs ++ new ∧ Pairs R (s.recs.getLast?.toList ++ new) ∧ I s' := by
  rcases run_eq_ok.mp h with ⟨_, _, h⟩ | ⟨h0, s0, hc, h⟩
  · exact loop_pairs_of hstep h hs
  · obtain ⟨r, hr⟩ := compute_ok hc
    obtain ⟨new, hn, hp, hi⟩ := loop_pairs_of hstep h (hinit s s0 hs h0 hc)
    have hr0 : s0.recs = [r] := by rw [hr.recs]; exact congrArg (· ++ [r]) h0
    rw [hr0] at hn hp
    exact ⟨r :: new, by rw [hn, h0]; rfl, by simpa [h0] using hp, hi⟩

theorem inv2_step {c : Cfg} {dt : Q} {R : Rec → Rec → Prop}
    (hstep : ∀ (s s' : St) (t : Q) (a b : Rec), Inv2 c s → stepAt c dt s t = .ok s' →
      s'.recs = s.recs ++ [b] → s.recs.getLast? = some a → R a b) (s : St) (t : Q) (s' : St)
    (hi : Inv2 c s) (h : stepAt c dt s t = .ok s') :
    Inv2 c s' ∧ ∃ b, s'.recs = s.recs ++ [b] ∧ ∀ a, s.recs.getLast? = some a → R a b := by
  obtain ⟨b, hb, _⟩ := stepAt_recs h
  exact ⟨compute_inv2 c (integrate s dt) s' t hi.1 h, b, hb, fun a ha => hstep s s' t a b hi h hb ha⟩

/-- a relation established by every step between the last record and the new one holds pairwise
    along the loop -/
theorem loop_pairs (c : Cfg) (dt : Q) (stop) (R : Rec → Rec → Prop)
    (hstep : ∀ (s s' : St) (t : Q) (a b : Rec), Inv2 c s → stepAt c dt s t = .ok s' →
      s'.recs = s.recs ++ [b] → s.recs.getLast? = some a → R a b)
    (ts : List Q) (s s' : St) (hinv : Inv2 c s) (h : loop c dt stop ts s = .ok s') :
    ∃ new, s'.recs = s.recs ++ new ∧ Pairs R (s.recs.getLast?.toList ++ new) ∧ Inv2 c s' :=
  loop_pairs_of (inv2_step hstep) h hinv

/-- the same for a run: continued (pairs include the last old record) or fresh (the first record
    comes from the initial `compute`) -/
theorem run_pairs (c : Cfg) (dt : Q) (n : Nat) (stop) (R : Rec → Rec → Prop)
    (hstep : ∀ (s s' : St) (t : Q) (a b : Rec), Inv2 c s → stepAt c dt s t = .ok s' →
      s'.recs = s.recs ++ [b] → s.recs.getLast? = some a → R a b)
    (s s' : St) (hinv : Inv2 c s) (h : run c dt n stop s = .ok s') :
    ∃ new, s'.recs = s.recs ++ new ∧ Pairs R (s.recs.getLast?.toList ++ new) ∧ Inv2 c s' :=
  run_pairs_of (inv2_step hstep)
    (fun _ s0 hi _ hc => compute_inv2 c _ s0 0 ((stInv_kept c).unlock hi.1) hc) h hinv

/-- a schedule made of runs (fresh or continued, with any stop condition) and resets — the operations that keep
    `Live`; an attribute write or a new solver between two runs breaks it -/
def RunsAndResets : List Op → Prop
  | [] => True
  | .run _ _ _ :: os => RunsAndResets os
  | .reset :: os => RunsAndResets os
  | _ :: _ => False

/-- along a schedule of runs (with any time steps) and resets, a relation established by every step
    holds between all consecutive records of the final history -/
theorem exec_pairs (c : Cfg) (R : Rec → Rec → Prop)
    (hstep : ∀ (dt : Q) (s s' : St) (t : Q) (a b : Rec), Inv2 c s → stepAt c dt s t = .ok s' →
      s'.recs = s.recs ++ [b] → s.recs.getLast? = some a → R a b)
    (ops : List Op) (hops : RunsAndResets ops) (s s' : St) (hinv : Inv2 c s) (hp : Pairs R s.recs)
    (h : exec c ops s = .ok s') : Pairs R s'.recs ∧ Inv2 c s' := by
  induction ops generalizing s with
  | nil => simp only [exec, Except.ok.injEq] at h; exact h ▸ ⟨hp, hinv⟩
  | cons o os ih =>
    obtain ⟨s1, h1, h2⟩ := exec_cons.mp h
    cases o with
    | run dt n stop =>
      obtain ⟨new, hn, hps, hi⟩ := run_pairs c dt n stop R (hstep dt) s s1 hinv h1
      exact ih hops s1 hi (hn ▸ pairs_append R _ _ hp hps) h2
    | reset =>
      have hi := (stInv_kept c).reset hinv.1 h1
      obtain ⟨r, rs, _, rfl⟩ := reset_eq_ok.mp h1
      exact ih hops _ ⟨hi, live_of_nil _ rfl⟩ trivial h2
    | setInitial p v => exact hops.elim
    | setPwm p => exact hops.elim
    | newSolver => exact hops.elim

end Gearpy
