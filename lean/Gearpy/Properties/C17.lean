import Gearpy.Model.Record
import Gearpy.Proofs.Solver
/-!
# C17 — every advertised time variable has exactly one sample per instant

Bookkeeping model (`Gearpy.Model.Record`): `advertised` = the keys present after construction and
relation declarations, `recordsNow` = what `update_time_variables` appends, decided by the
`…_is_computable` flags *at update time* (for a worm wheel the bending flag depends on its mate).
* `advertised_iff_records`: for every element kind, every subset of optional data and every
  mating situation, a variable other than `'pwm'` is advertised exactly when it is recorded
  (`'pwm'` is recorded by motors and creates its key at the first update) — this is the statement
  that failed before repair D6 for a worm wheel mated with a worm without reference diameter;
* `lengths_inv`: after **any** sequence of recorded instants and resets, every key present holds
  exactly as many samples as there are recorded instants, and every variable the element records
  has its key;
* values: `last_is_attr` — the solver model's live attributes equal the last record
  (`C03.Coherent`), and each record is appended from the attributes just computed (`compute`);
  kinds of samples are enforced by the typed setters (checked by the harness);
* `record_shape` / `schedule_record_shape`: in the solver model every recorded instant of every schedule holds
  exactly one position, speed, acceleration, driving, load and net torque per element of the chain;
* consequently export and snapshot, which zip every advertised list with the time axis, cannot
  hit a length mismatch (`export_total`).
-/

namespace Gearpy.C17
open Gearpy

theorem advertised_iff_records (e : ElemInfo) (v : Var) (hv : v ≠ .pwm) : advertised e v = recordsNow e v := by
  obtain ⟨k, ⟨m, b, E⟩, rd, hc, mate⟩ := e
  cases k <;> cases v <;> simp_all [advertised, recordsNow, Var.isBase, Var.rank, forceComputable, bendingComputable,
    contactComputable, wormWheelBendingComputable] <;>
    (cases m <;> cases b <;> (try cases E) <;> (try cases mate) <;> simp_all)

theorem pwm_records (e : ElemInfo) : recordsNow e .pwm = (e.kind == .motor) := by
  obtain ⟨k, d, rd, hc, mate⟩ := e
  cases k <;> simp [recordsNow, Var.isBase, Var.rank]

theorem pwm_not_advertised (e : ElemInfo) : advertised e .pwm = false := by
  obtain ⟨k, d, rd, hc, mate⟩ := e
  cases k <;> simp [advertised, Var.isBase, Var.rank]

/-- the invariant: every present key belongs to a recorded variable and has `n` samples; an absent
    key of a recorded variable can only be `'pwm'` before the first instant was ever recorded -/
def Inv (e : ElemInfo) (n : Nat) (tv : TV) : Prop :=
  ∀ v, match tv v with
    | some k => k = n ∧ recordsNow e v = true
    | none => recordsNow e v = true → v = .pwm ∧ n = 0

theorem inv_init (e : ElemInfo) : Inv e 0 (TV.init e) := by
  intro v
  by_cases hv : v = .pwm
  · subst hv; simp [TV.init, pwm_not_advertised]
  · simp only [TV.init, advertised_iff_records e v hv]; split <;> simp_all

theorem inv_update (e : ElemInfo) (n : Nat) (tv : TV) (h : Inv e n tv) : Inv e (n + 1) (tv.update e) := by
  intro v
  have := h v
  unfold TV.update
  cases hr : recordsNow e v <;> cases htv : tv v <;> simp_all

theorem inv_reset (e : ElemInfo) (n : Nat) (tv : TV) (h : Inv e n tv) : Inv e 0 tv.reset := by
  intro v
  have := h v
  unfold TV.reset
  cases htv : tv v with
  | some k => rw [htv] at this; exact ⟨rfl, this.2⟩
  | none => rw [htv] at this; exact fun hr => ⟨(this hr).1, rfl⟩

/-- C17: after any sequence of recorded instants and resets every present key holds exactly one
    sample per recorded instant, and every recorded variable has its key as soon as one instant
    is recorded -/
theorem lengths_inv (e : ElemInfo) (ops : List RecOp) :
    let r := recRun e ops (0, TV.init e)
    (∀ v k, r.2 v = some k → k = r.1) ∧ (0 < r.1 → ∀ v, recordsNow e v = true → r.2 v = some r.1) := by
  have key : ∀ (ops : List RecOp) (n : Nat) (tv : TV), Inv e n tv → Inv e (recRun e ops (n, tv)).1 (recRun e ops (n, tv)).2 := by
    intro ops
    induction ops with
    | nil => exact fun _ _ h => h
    | cons o os ih =>
      intro n tv h
      cases o with
      | update => exact ih _ _ (inv_update e n tv h)
      | reset => exact ih _ _ (inv_reset e n tv h)
  have hinv := key ops 0 (TV.init e) (inv_init e)
  refine ⟨fun v k hk => ?_, fun hpos v hr => ?_⟩
  · have := hinv v; rw [hk] at this; exact this.1
  · have := hinv v
    cases htv : (recRun e ops (0, TV.init e)).2 v with
    | some k => rw [htv] at this; rw [this.1]
    | none => rw [htv] at this; exact absurd (this hr).2 hpos.ne'

/-- the variables `snapshot` reports for an element are among those it records, hence have a full
    history to interpolate: export and snapshot never meet a length mismatch -/
theorem export_total (e : ElemInfo) (ops : List RecOp) (req : Option (List Var)) (v : Var)
    (hs : snapshotReports e req v = true) (hpos : 0 < (recRun e ops (0, TV.init e)).1) :
    (recRun e ops (0, TV.init e)).2 v = some (recRun e ops (0, TV.init e)).1 := by
  have hr : recordsNow e v = true := by
    unfold snapshotReports at hs; simp only [Bool.and_eq_true] at hs; exact hs.2
  exact (lengths_inv e ops).2 hpos v hr

theorem last_is_attr (c : Cfg) (s s' : St) (t : Q) (hinv : s.locked = true → c.sl = true)
    (h : compute c s t = .ok s') :
    ∃ r, s'.recs.getLast? = some r ∧ s'.pos = lastD r.pos ∧ s'.speed = lastD r.speed ∧ s'.acc = lastD r.acc ∧
      s'.pwm = r.pwm ∧ s'.mtorque = some (r.torque.headD 0) := by
  obtain ⟨r, hr⟩ := compute_ok h
  exact ⟨r, hr.getLast, hr.lastPos.symm, hr.lastSpeed.symm, hr.lastAcc.symm, hr.pwm', hr.mtorque'⟩

/-! ### the solver model's records: one sample per element per instant -/
theorem coupled_length : ∀ (rs xs : List Q), Coupled rs xs → xs.length = rs.length + 1 :=
  fun _ _ h => (coupled_get h).1

theorem driveOK_length : ∀ (ls : List Link) (xs : List Q), DriveOK ls xs → xs.length = ls.length + 1 :=
  fun _ _ h => (drive_get h).1

theorem loadOK_length : ∀ (ls : List Link) (xs : List Q), LoadOK ls xs → xs.length = ls.length + 1 :=
  fun _ _ h => (load_get h).1

theorem record_shape (c : Cfg) (r : Rec) (h : RecOK c r) :
    r.pos.length = c.links.length + 1 ∧ r.speed.length = c.links.length + 1 ∧ r.acc.length = c.links.length + 1 ∧
    r.dtorque.length = c.links.length + 1 ∧ r.ltorque.length = c.links.length + 1 ∧
    r.torque.length = c.links.length + 1 := by
  have hp := coupled_length _ _ h.pos
  have hv := coupled_length _ _ h.speed
  have ha := coupled_length _ _ h.acc
  have hd := driveOK_length _ _ h.drive
  have hl := loadOK_length _ _ h.load
  simp only [List.length_map] at hp hv ha
  refine ⟨hp, hv, ha, hd, hl, ?_⟩
  rw [h.net, List.length_zipWith, hd, hl]; simp

/-- **One sample per element per instant, for every history**: after any schedule of runs, resets and attribute
    changes every recorded instant holds exactly one position, speed, acceleration, driving, load and net torque per
    element of the chain -/
theorem schedule_record_shape (c : Cfg) (ops : List Op) (p v : Q) (s' : St)
    (he : exec c ops (St.init p v) = .ok s') : ∀ r ∈ s'.recs,
    r.pos.length = c.links.length + 1 ∧ r.speed.length = c.links.length + 1 ∧ r.acc.length = c.links.length + 1 ∧
    r.dtorque.length = c.links.length + 1 ∧ r.ltorque.length = c.links.length + 1 ∧
    r.torque.length = c.links.length + 1 :=
  fun r hr => record_shape c r (records_ok he r hr)

/-! ### non-vacuity: the D6 configuration (worm wheel with module and face width, worm without
    reference diameter) after run, reset, run -/
def d6 : ElemInfo := { kind := .wormWheel, data := ⟨true, true, false⟩, mateRefDiam := some false }
example : (recRun d6 [.update, .update, .reset, .update] (0, TV.init d6)).1 = 1 := by decide +kernel
example : (recRun d6 [.update, .update, .reset, .update] (0, TV.init d6)).2 .bending = none := by decide +kernel
example : (recRun d6 [.update, .update, .reset, .update] (0, TV.init d6)).2 .force = some 1 := by decide +kernel

end Gearpy.C17
