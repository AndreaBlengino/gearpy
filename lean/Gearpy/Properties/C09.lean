import Gearpy.Model.Gears
import Gearpy.Proofs.Solver
import Gearpy.Proofs.Units
import Gearpy.Generated.Tables
import Gearpy.Proofs.Lerp
import Gearpy.Proofs.GenTable
import Mathlib.Algebra.Order.Field.Basic
/-!
# C09 — gear tooth force and stresses equal the documented formulas

Table theorems, re-proved against the table regenerated from the source on every run:
* `lewis_sorted`: the tabulated teeth numbers are strictly increasing (what `interp1d` needs);
* `lewis_int`: **for every integer teeth number from 10 to 600** the interpolated Lewis factor
  equals the tabulated value when `z` is tabulated and otherwise lies between the two bracketing
  rows' values.  It is an instance of `interpOk_of_sorted`, which proves the same by induction over
  the table for every table with strictly increasing abscissae and every rational abscissa from
  the first row on (so the upper end 600 plays no part); that the regenerated table is sorted and
  starts at the minimum teeth number is evaluated (`lewis_sorted`, `lewis_first`);
  `lewis_clamp_low`: below the first row the value is the first row's (beyond the last row it is the last
  row's: the last case of `interpOk`);
* `lewis_at_row`, `lewis_between`: the interpolation formula for every rational argument.
Formulas (for every value of the parameters):
* `force_value`, `force_nonneg`: `F_t = |T_ref| / (d/2)`, load torque for a master, driving
  torque for a slave, `ValueError` when unmated (`force_unmated`); `worm_force_value`;
* `bending_value`: `σ_b = F_t / (m b Y)`; `wormWheel_bending_value`: normal pitch
  `π d_w sin β_w / z`, effective width `min(b, 0.67 d_w)`;
* `contact_closed_form`: `E_eq · p = F_t / (b/cos β) · (2/sin α_t cos α_t)·(1/d₁ + 1/d₂) · 2E₁E₂/(E₁+E₂)`
  — the documented Hertz expression (spur gears: `cos β = 1`, plain pressure angle);
* `flags_iff`: the three `…_is_computable` flags are true exactly when the gear's own data are
  present (`wormWheel_bending_iff`: for a mated worm wheel also the worm's reference diameter);
* `contact_mate_error_iff`: asking for the contact stress raises `ValueError` exactly when the
  gear is unmated or its mate lacks module or elastic modulus;
* `record_forces`, `gearForces_get`: in a simulation, at **every recorded instant of every history** the
  recorded force and stresses are these functions of the torques recorded at that same instant.
-/

namespace Gearpy.C09
open Gearpy

theorem interpClamp_cons_cons (a b : Q × Q) (rest : List (Q × Q)) (x : Q) :
    interpClamp (a :: b :: rest) x =
      if x ≤ a.1 then a.2
      else if x ≤ b.1 then a.2 + (b.2 - a.2) * (x - a.1) / (b.1 - a.1)
      else interpClamp (b :: rest) x := by
  rw [interpClamp]

theorem interpClamp_single (a : Q × Q) (x : Q) : interpClamp [a] x = a.2 := by
  rw [interpClamp]

theorem interpClamp_le_first (a : Q × Q) (rest : List (Q × Q)) (x : Q) (h : x ≤ a.1) :
    interpClamp (a :: rest) x = a.2 := by
  cases rest with
  | nil => exact interpClamp_single a x
  | cons b rest => rw [interpClamp_cons_cons, if_pos h]

theorem interp_clamp_low (x0 y0 : Q) (rest : List (Q × Q)) (x : Q) (h : x ≤ x0) (hne : rest ≠ []) :
    interpClamp ((x0, y0) :: rest) x = y0 :=
  interpClamp_le_first (x0, y0) rest x h

theorem lewis_between (x0 y0 x1 y1 : Q) (rest : List (Q × Q)) (x : Q) (h0 : x0 < x) (h1 : x ≤ x1) :
    interpClamp ((x0, y0) :: (x1, y1) :: rest) x = y0 + (y1 - y0) * (x - x0) / (x1 - x0) := by
  rw [interpClamp_cons_cons, if_neg (not_le.2 h0), if_pos h1]

theorem lewis_at_row (x0 y0 x1 y1 : Q) (rest : List (Q × Q)) (h : x0 < x1) :
    interpClamp ((x0, y0) :: (x1, y1) :: rest) x1 = y1 := by
  rw [lewis_between x0 y0 x1 y1 rest x1 h le_rfl, mul_div_assoc, div_self (sub_pos.2 h).ne']
  ring

/-- from the second row on, the first row plays no part -/
theorem interpClamp_skip (a b : Q × Q) (rest : List (Q × Q)) (x : Q) (h : a.1 < b.1) (hx : b.1 ≤ x) :
    interpClamp (a :: b :: rest) x = interpClamp (b :: rest) x := by
  rcases hx.eq_or_lt with rfl | hx
  · rw [lewis_at_row a.1 a.2 b.1 b.2 rest h, interpClamp_le_first b rest _ le_rfl]
  · rw [interpClamp_cons_cons, if_neg (not_le.2 (h.trans hx)), if_neg (not_le.2 hx)]

/-- abscissae strictly increasing -/
def sortedX : List (Q × Q) → Bool
  | a :: b :: rest => decide (a.1 < b.1) && sortedX (b :: rest)
  | _ => true

theorem sortedX_cons_cons (a b : Q × Q) (rest : List (Q × Q)) :
    sortedX (a :: b :: rest) = true ↔ a.1 < b.1 ∧ sortedX (b :: rest) = true := by
  rw [sortedX, Bool.and_eq_true, decide_eq_true_eq]

theorem lewis_sorted : sortedX Gen.lewisTable = true := by decide +kernel

/-- value of the table at an abscissa that is tabulated -/
def rowAt (tbl : List (Q × Q)) (x : Q) : Option Q := (tbl.find? (fun r => r.1 == x)).map (·.2)

theorem rowAt_nil (x : Q) : rowAt [] x = none := rfl

theorem rowAt_cons (a : Q × Q) (tbl : List (Q × Q)) (x : Q) :
    rowAt (a :: tbl) x = if a.1 = x then some a.2 else rowAt tbl x := by
  by_cases h : a.1 = x <;> simp [rowAt, h]

/-- the two rows bracketing `x` -/
def bracket : List (Q × Q) → Q → Option ((Q × Q) × (Q × Q))
  | a :: b :: rest, x => if decide (a.1 < x) && decide (x < b.1) then some (a, b) else bracket (b :: rest) x
  | _, _ => none

theorem bracket_single (a : Q × Q) (x : Q) : bracket [a] x = none := rfl

theorem bracket_cons_cons (a b : Q × Q) (rest : List (Q × Q)) (x : Q) :
    bracket (a :: b :: rest) x = if a.1 < x ∧ x < b.1 then some (a, b) else bracket (b :: rest) x := by
  simp [bracket]

/-- below the first row of a sorted table nothing is tabulated -/
theorem rowAt_below (a : Q × Q) (tbl : List (Q × Q)) (hs : sortedX (a :: tbl) = true) (x : Q) (hx : x < a.1) :
    rowAt (a :: tbl) x = none := by
  induction tbl generalizing a with
  | nil => rw [rowAt_cons, if_neg hx.ne', rowAt_nil]
  | cons b rest ih =>
    rw [sortedX_cons_cons] at hs
    rw [rowAt_cons, if_neg hx.ne']
    exact ih b hs.2 (hx.trans hs.1)

/-- what the property says about one integer teeth number -/
def lewisOk (z : Nat) : Bool :=
  let x : Q := z
  let y := interpClamp Gen.lewisTable x
  match rowAt Gen.lewisTable x with
  | some v => y == v
  | none => match bracket Gen.lewisTable x with
    | some (a, b) => (y == a.2 + (b.2 - a.2) * (x - a.1) / (b.1 - a.1)) &&
                     ((decide (a.2 ≤ y) && decide (y ≤ b.2)) || (decide (b.2 ≤ y) && decide (y ≤ a.2)))
    | none => match Gen.lewisTable.getLast? with
      | some l => decide (l.1 < x) && y == l.2
      | none => false

/-- `lewisOk` for any table and any rational abscissa -/
def interpOk (tbl : List (Q × Q)) (x : Q) : Bool :=
  let y := interpClamp tbl x
  match rowAt tbl x with
  | some v => y == v
  | none => match bracket tbl x with
    | some (a, b) => (y == a.2 + (b.2 - a.2) * (x - a.1) / (b.1 - a.1)) &&
                     ((decide (a.2 ≤ y) && decide (y ≤ b.2)) || (decide (b.2 ≤ y) && decide (y ≤ a.2)))
    | none => match tbl.getLast? with
      | some l => decide (l.1 < x) && y == l.2
      | none => false

theorem lewisOk_eq (z : Nat) : lewisOk z = interpOk Gen.lewisTable z := rfl

theorem interpOk_first (a : Q × Q) (tbl : List (Q × Q)) : interpOk (a :: tbl) a.1 = true := by
  simp [interpOk, rowAt_cons, interpClamp_le_first]

theorem interpOk_skip (a b : Q × Q) (rest : List (Q × Q)) (x : Q) (h : a.1 < b.1) (hx : b.1 ≤ x) :
    interpOk (a :: b :: rest) x = interpOk (b :: rest) x := by
  simp only [interpOk, interpClamp_skip a b rest x h hx, rowAt_cons a, if_neg (h.trans_le hx).ne,
    bracket_cons_cons a, if_neg fun h' : a.1 < x ∧ x < b.1 => not_lt.2 hx h'.2, List.getLast?_cons_cons]

/-- On a table with strictly increasing abscissae, at every rational abscissa from the first row on, the clamped
    interpolation is the tabulated value, or the interpolation formula on the bracketing rows and between their values,
    or beyond the last row the last value. -/
theorem interpOk_of_sorted (tbl : List (Q × Q)) (hs : sortedX tbl = true) (x0 x : Q)
    (h0 : tbl.head?.map (·.1) = some x0) (hx : x0 ≤ x) : interpOk tbl x = true := by
  induction tbl generalizing x0 with
  | nil => cases h0
  | cons a tbl ih =>
    obtain rfl : a.1 = x0 := Option.some.inj h0
    rcases hx.eq_or_lt with rfl | hlt
    · exact interpOk_first a tbl
    cases tbl with
    | nil =>
      -- a single row: `x` lies beyond the last row
      simp [interpOk, rowAt_cons, rowAt_nil, bracket_single, interpClamp_single, hlt, hlt.ne]
    | cons b rest =>
      rw [sortedX_cons_cons] at hs
      rcases lt_or_ge x b.1 with h1 | h1
      · -- strictly inside the first segment: nothing is tabulated at `x`, the first two rows bracket it
        have hw := Set.mem_uIcc.1 (lerp_mem_uIcc a.2 b.2 hlt h1)
        simp only [interpOk, rowAt_cons a, if_neg hlt.ne, rowAt_below b rest hs.2 x h1, bracket_cons_cons a,
          if_pos (And.intro hlt h1), interpClamp_cons_cons, if_neg (not_le.2 hlt), if_pos h1.le]
        simpa using hw
      · rw [interpOk_skip a b rest x hs.1 h1]
        exact ih hs.2 b.1 rfl h1

theorem lewis_int : ∀ z ∈ List.range' Gen.minTeeth (601 - Gen.minTeeth), lewisOk z = true := by
  intro z hz
  rw [lewisOk_eq]
  exact interpOk_of_sorted _ lewis_sorted _ _ lewis_first (Nat.cast_le.2 (List.mem_range'_1.1 hz).1)

theorem interpClamp_le_head (tbl : List (Q × Q)) (x0 x : Q) (h0 : tbl.head?.map (·.1) = some x0) (h : x ≤ x0) :
    interpClamp tbl x = (tbl.head?.map (·.2)).getD 0 := by
  cases tbl with
  | nil => cases h0
  | cons a rest =>
    obtain rfl : a.1 = x0 := Option.some.inj h0
    exact interpClamp_le_first a rest x h

theorem lewis_clamp_low (x : Q) (h : x ≤ Gen.minTeeth) :
    interpClamp Gen.lewisTable x = (Gen.lewisTable.head?.map (·.2)).getD 0 :=
  interpClamp_le_head _ _ x lewis_first h


theorem refTorque_some (role : Role) (dT lT : Q) :
    refTorque (some role) dT lT = .ok (match role with | .master => lT | .slave => dT) := by
  cases role <;> rfl

theorem force_value (role : Role) (dT lT d : Q) :
    tangentialForce (some role) dT lT d = .ok (qabs (match role with | .master => lT | .slave => dT) / (d / 2)) := by
  cases role <;> rfl

theorem force_unmated (dT lT d : Q) : tangentialForce none dT lT d = .error .valueE := rfl

theorem force_nonneg (role : Option Role) (dT lT d F : Q) (hd : 0 < d) (h : tangentialForce role dT lT d = .ok F) : 0 ≤ F := by
  obtain ⟨T, -, rfl⟩ := map_eq_ok h
  exact div_nonneg (qabs_nonneg T) (half_pos hd).le

theorem worm_force_value (role : Role) (dT lT d tanB : Q) :
    wormGearForce (some role) dT lT d tanB = .ok (qabs (match role with | .master => lT | .slave => dT) / (d / 2) * tanB) := by
  cases role <;> rfl

theorem bending_value (F m b Y : Q) (hm : m ≠ 0) (hb : b ≠ 0) (hY : Y ≠ 0) : bendingStress F m b Y = F / (m * b * Y) :=
  div_div F (m * b) Y

theorem wormWheel_bending_value (F pi dw sinB : Q) (z : Nat) (b Y : Q) :
    wormWheelBending F pi dw sinB z b Y =
      F / ((pi * dw * sinB / (z : Q)) * (if b ≤ 67 / 100 * dw then b else 67 / 100 * dw)) / Y := rfl

theorem contact_closed_form (F E1 E2 d1 d2 b sinA cosA cosB : Q)
    (hE : E1 + E2 ≠ 0) (hd : d1 + d2 ≠ 0) (h1 : d1 ≠ 0) (h2 : d2 ≠ 0) (hb : b ≠ 0) (hs : sinA ≠ 0) (hc : cosA ≠ 0) (hcb : cosB ≠ 0) :
    contactStressSq F E1 E2 d1 d2 b sinA cosA cosB =
      (262922 / 1000000) ^ 2 * (F * cosB / (b * cosA * sinA) * 2 * (1 / d1 + 1 / d2) * (2 * E1 * E2 / (E1 + E2))) := by
  unfold contactStressSq; field_simp; ring

theorem flags_iff (g : GearData) :
    (forceComputable g = true ↔ g.module = true) ∧
    (bendingComputable g = true ↔ g.module = true ∧ g.faceWidth = true) ∧
    (contactComputable g = true ↔ g.module = true ∧ g.faceWidth = true ∧ g.modulus = true) := by
  simp [forceComputable, bendingComputable, contactComputable, and_assoc]

theorem wormWheel_bending_iff (g : GearData) (mate : Option Bool) :
    wormWheelBendingComputable g mate = true ↔
      g.module = true ∧ g.faceWidth = true ∧ (∀ d, mate = some d → d = true) := by
  cases mate <;> simp [wormWheelBendingComputable, bendingComputable, and_assoc]

theorem contact_mate_error_iff (role : Option Role) (mm me : Bool) :
    contactMate role mm me = .error .valueE ↔ role = none ∨ mm = false ∨ me = false := by
  cases role <;> cases mm <;> cases me <;> simp [contactMate]


/-- on every record of every history the force list is `gearForces` of *that record's* driving and load
    torques, and the stress lists are `gearStresses` of that force list (no stale torque, no stale force) -/
theorem record_forces (c : Cfg) (ops : List Op) (p v : Q) (s' : St) (he : exec c ops (St.init p v) = .ok s') :
    ∀ r ∈ s'.recs, gearForces c.gears r.dtorque r.ltorque = .ok r.force ∧
      gearStresses c.gears r.force = .ok (r.bending, r.contactSq) := by
  intro r hr
  have h := records_ok he r hr
  exact ⟨h.forces, h.stresses⟩

/-- a successful `gearForces` of non-empty lists is a successful `gearForces` of the tails, headed by `none` for a gear
    without force data and by `|T_ref| / (d/2) · k` of its reference torque otherwise -/
theorem gearForces_cons_ok {g : GearSim} {gs : List GearSim} {d l : Q} {ds ls : List Q} {fs : List (Option Q)}
    (h : gearForces (g :: gs) (d :: ds) (l :: ls) = .ok fs) :
    ∃ f fs', fs = f :: fs' ∧ gearForces gs ds ls = .ok fs' ∧ (g.force = none → f = none) ∧
      ∀ dia k, g.force = some (dia, k) → ∃ T, refTorque g.role d l = .ok T ∧ f = some (qabs T / (dia / 2) * k) := by
  rw [gearForces] at h
  cases hf : g.force with
  | none =>
    rw [hf] at h
    obtain ⟨fs', htl, rfl⟩ := map_eq_ok h
    exact ⟨none, fs', rfl, htl, fun _ => rfl, nofun⟩
  | some dk =>
    rw [hf] at h
    cases hT : refTorque g.role d l with
    | error e => rw [hT] at h; cases h
    | ok T =>
      rw [hT] at h
      obtain ⟨fs', htl, rfl⟩ := map_eq_ok h
      exact ⟨_, fs', rfl, htl, nofun, fun _ _ hdk => by cases hdk; exact ⟨T, rfl, rfl⟩⟩

theorem gearForces_get : ∀ (gs : List GearSim) (ds ls : List Q) (fs : List (Option Q)), gearForces gs ds ls = .ok fs →
    ∀ (i : Nat) (g : GearSim) (d l : Q) (dia k : Q) (role : Role), gs[i]? = some g → ds[i]? = some d → ls[i]? = some l →
      g.force = some (dia, k) → g.role = some role →
      fs[i]? = some (some (qabs (match role with | .master => l | .slave => d) / (dia / 2) * k))
  | g0 :: gs, d0 :: ds, l0 :: ls, fs, h, i, g, d, l, dia, k, role, hg, hd, hl, hf, hr => by
    obtain ⟨f, fs', rfl, htl, -, hhd⟩ := gearForces_cons_ok h
    cases i with
    | zero =>
      cases hg; cases hd; cases hl
      obtain ⟨T, hT, rfl⟩ := hhd dia k hf
      rw [hr, refTorque_some] at hT
      cases hT
      rfl
    | succ j => exact gearForces_get gs ds ls fs' htl j g d l dia k role hg hd hl hf hr
  | [], _, _, _, _, _, _, _, _, _, _, _, hg, _, _, _, _ => nomatch hg
  | _ :: _, [], _, _, _, _, _, _, _, _, _, _, _, hd, _, _, _ => nomatch hd
  | _ :: _, _ :: _, [], _, _, _, _, _, _, _, _, _, _, _, hl, _, _ => nomatch hl

/-! ### non-vacuity -/
example : gearForces [{}, { role := some .slave, force := some (1/50, 1) }] [2, 3] [1, 1/2] = .ok [none, some 300] := by
  decide +kernel
example : interpClamp Gen.lewisTable 10 = (Gen.lewisTable.headD (0, 0)).2 := by decide +kernel
example : lewisOk 31 = true := by decide +kernel

end Gearpy.C09
