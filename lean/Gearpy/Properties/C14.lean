import Gearpy.Model.Control
import Gearpy.Proofs.Solver
/-!
# C14 — duty-cycle arbitration: one rule wins, default 1, always within [-1, 1]

On the proposals of the rule set at an instant (`none` = not applicable):
* `arbitrate_none`: no rule applicable ⇒ duty cycle 1;
* `arbitrate_one`: exactly one applicable, proposing a number `v` ⇒ `saturate v` (= `v` clipped
  to [-1, 1], `saturate_spec`);
* `arbitrate_two`: two or more applicable ⇒ `ValueError`; `conflict_stops`: the error
  propagates out of `compute`, `run` and the whole schedule — the simulation does not continue;
* `arbitrate_nan`: a single applicable rule proposing `nan` (square root of a negative number in
  StartLimitCurrent) ⇒ `ValueError` from the duty-cycle setter (repair D8; before it, `nan` was
  stored and recorded);
* `compute_applies_control`: the duty cycle recorded at an instant is the controller's output on that
  instant's own state, held or not;
* `arbitrate_range`, `recorded_in_range` and `recorded_in_range_segments` (the controller being a parameter of
  each run): every duty cycle recorded along any history lies in
  [-1, 1] (the attribute starts in range: constructor default 1 or the validating setter).
-/

namespace Gearpy.C14
open Gearpy

theorem saturate_spec (v : Q) :
    saturate v = (if v < -1 then -1 else if 1 < v then 1 else v) ∧ -1 ≤ saturate v ∧ saturate v ≤ 1 := by
  unfold saturate
  refine ⟨rfl, ?_, ?_⟩ <;> split_ifs <;> linarith

theorem saturate_id (v : Q) (h1 : -1 ≤ v) (h2 : v ≤ 1) : saturate v = v := by
  unfold saturate
  rw [if_neg (by linarith), if_neg (by linarith)]

theorem arbitrate_none (ps : List Proposal) (h : ps.filterMap id = []) : arbitrate ps = .ok 1 := by
  unfold arbitrate; rw [h]

theorem arbitrate_one (ps : List Proposal) (v : Q) (h : ps.filterMap id = [some v]) :
    arbitrate ps = .ok (saturate v) := by
  unfold arbitrate; rw [h]
  have := saturate_spec v
  simp only [setPwm]
  rw [if_pos ⟨this.2.1, this.2.2⟩]

theorem arbitrate_nan (ps : List Proposal) (h : ps.filterMap id = [none]) : arbitrate ps = .error .valueE := by
  unfold arbitrate; rw [h]

theorem arbitrate_two (ps : List Proposal) (h : 2 ≤ (ps.filterMap id).length) : arbitrate ps = .error .valueE := by
  unfold arbitrate
  match hm : ps.filterMap id, h with
  | a :: b :: rest, _ => simp

theorem arbitrate_range (ps : List Proposal) (d : Q) (h : arbitrate ps = .ok d) : -1 ≤ d ∧ d ≤ 1 := by
  unfold arbitrate at h
  split at h
  · simp only [Except.ok.injEq] at h; subst h; constructor <;> norm_num
  · unfold setPwm at h
    split at h
    · rename_i hc; simp only [Except.ok.injEq] at h; subst h; exact hc
    · simp at h
  · simp at h
  · simp at h

theorem pwmControl_range (e : CtlEnv) (rules : List Rule) (i : CtlIn) (d : Q)
    (h : pwmControl e rules i = .ok d) : -1 ≤ d ∧ d ≤ 1 := by
  unfold pwmControl at h
  split at h
  · simp at h
  · exact arbitrate_range _ d h

/-- a controller all of whose outputs lie in [-1, 1] -/
def CtlRanged (c : Cfg) : Prop := ∀ f, c.control = some f → ∀ i d, f i = .ok d → -1 ≤ d ∧ d ≤ 1

def PwmInv (s : St) : Prop := (-1 ≤ s.pwm ∧ s.pwm ≤ 1) ∧ ∀ r ∈ s.recs, -1 ≤ r.pwm ∧ r.pwm ≤ 1

/-- duty cycles stay in range along runs and schedules: control outputs are ranged, `reset` restores a recorded duty
    cycle, the `pwm` setter checks its argument -/
theorem pwmInv_kept (c : Cfg) (hc : CtlRanged c) : Kept c PwmInv where
  toKeptByRun := pwm_kept c _ hc
  reset := fun hs h => by
    obtain ⟨r, rs, hrs, rfl⟩ := reset_eq_ok.mp h
    exact ⟨hs.2 r (by simp [hrs]), by simp⟩
  setInitial := fun _ _ hs => hs
  setPwm := fun _ hp hs => ⟨hp, hs.2⟩

theorem recorded_in_range (c : Cfg) (hc : CtlRanged c) (ops : List Op) (p v : Q) (s' : St)
    (he : exec c ops (St.init p v) = .ok s') : ∀ r ∈ s'.recs, -1 ≤ r.pwm ∧ r.pwm ≤ 1 :=
  (exec_kept (pwmInv_kept c hc) he (by simp [PwmInv, St.init])).2

/-- C14 when the controller is a parameter of each run (`execSeg`: every segment has its own configuration,
    in particular its own controller or none): every recorded duty cycle still lies in [-1, 1] -/
theorem recorded_in_range_segments : ∀ (segs : List (Cfg × List Op)) (s s' : St),
    (∀ seg ∈ segs, CtlRanged seg.1) → PwmInv s → execSeg segs s = .ok s' → PwmInv s'
  | _, _, _, hall, h, he => execSeg_kept (fun seg hs => pwmInv_kept seg.1 (hall seg hs)) he h

/-- the controller built from rules satisfies `CtlRanged` -/
theorem pwmControl_ranged (c : Cfg) (e : CtlEnv) (rules : List Rule) (h : c.control = some (pwmControl e rules)) :
    CtlRanged c := by
  intro f hf i d hd
  rw [h] at hf; simp only [Option.some.injEq] at hf; subst hf
  exact pwmControl_range e rules i d hd

/-- a controller that raises makes `compute` raise the same error (which `loop`, `run` and `exec` pass on:
    `exec_error_propagates`) -/
theorem conflict_stops (c : Cfg) (f : CtlIn → Except Err Q) (hc : c.control = some f) (s : St) (t : Q)
    (hconf : ∀ i, f i = .error .valueE) : compute c s t = .error .valueE := by
  unfold compute; simp only [hc, hconf]

theorem exec_error_propagates (c : Cfg) (o : Op) (os : List Op) (s : St) (e : Err)
    (h : applyOp c s o = .error e) : exec c (o :: os) s = .error e := by
  simp [exec, h]

/-- after motor control is applied at an instant, the recorded duty cycle is the controller's output on
    that instant's state — also while the powertrain is held by self-locking (control is never skipped) -/
theorem compute_applies_control (c : Cfg) (f : CtlIn → Except Err Q) (hc : c.control = some f) (s s' : St) (t : Q)
    (h : compute c s t = .ok s') :
    ∃ r i, s'.recs = s.recs ++ [r] ∧ i.time = t ∧ i.pos = r.pos ∧ i.speed = r.speed ∧
      i.load0 = r.ltorque.headD 0 ∧ f i = .ok r.pwm ∧ s'.pwm = r.pwm := by
  obtain ⟨r, hr⟩ := compute_ok h
  have hp := hr.pwm
  rw [hc] at hp
  exact ⟨r, _, hr.recs, rfl, rfl, rfl, rfl, hp, hr.pwm'⟩

/-! ### non-vacuity -/
example : arbitrate [none, some (some 5), none] = .ok 1 := by decide +kernel
example : arbitrate [none, some (some 0)] = .ok 0 := by decide +kernel      -- a proposal of exactly 0 is a proposal
example : arbitrate [some (some (1/2)), some (some (1/3))] = .error .valueE := by decide +kernel
example : arbitrate [none, some none] = .error .valueE := by decide +kernel

end Gearpy.C14
