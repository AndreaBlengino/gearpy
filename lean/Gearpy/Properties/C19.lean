import Gearpy.Proofs.Units
import Gearpy.Model.Motor
import Gearpy.Generated.Tables
import Gearpy.Proofs.GenTable
/-!
# C19 — sign-constrained quantities and parameters can never be invalid

* a list of `POp` is a straight-line program over a store of live quantities with the operations
  {construct, + − × ÷ (quantity or number operand), abs, neg, `to`, in-place `to`}; an operation
  that raises leaves the store as it was, in-place conversion overwrites the object in the store.
* `valid_inv`: after **every** step of **every** program (any length), every live object satisfies
  its kind's sign constraint.  Each operation returns through a constructor (`add_valid`, `sub_valid`,
  `mul_valid`, `div_valid`) or, for in-place `to`, multiplies a valid value by a positive ratio
  (`toInplace_valid`).
* `mk_error_nonpos` (with `sub_none_unreachable`): when the constructor inside `−` rejects, the
  difference is ≤ 0, so the `try/except` of `UnitBase.__sub__` always re-raises: the fall-through
  `None` is unreachable.
* constructor decision logic as `iff`: `mk_ok_iff`, `motorCtor_ok_iff`, `setPwm_ok_iff`,
  `teeth_ok_iff`.
In floats an in-place conversion can underflow to `0.0` (known finding K4): invisible in ℚ.
-/

namespace Gearpy.C19
open Gearpy Gearpy.Kind

variable {T : Tbl}

def Valid (q : Qty) : Prop := signOk q.kind q.value = true

theorem mk_ok_iff (k : Kind) (v : Q) (u : Nat) :
    (∃ r, mk k v u = .ok r) ↔
      (match k with
       | angle => 0 ≤ v
       | timeInt | inertia | length | surface => 0 < v
       | _ => True) := by
  rw [show (∃ r, mk k v u = .ok r) ↔ signOk k v = true by simp]
  cases k <;> simp only [signOk, decide_eq_true_eq]

theorem mk_valid {k v u} {r : Qty} (h : mk k v u = .ok r) : Valid r := by
  obtain ⟨hs, rfl⟩ := mk_eq_ok.mp h; exact hs

theorem signOk_of_pos (k : Kind) {v : Q} (hv : 0 < v) : signOk k v = true := by
  unfold signOk; split <;> simp only [hv, hv.le, decide_true]

theorem mk_error_nonpos {k v u} {e : Err} (h : mk k v u = .error e) : v ≤ 0 :=
  not_lt.mp fun hv => Bool.false_ne_true ((mk_eq_err.mp h).1.symm.trans (signOk_of_pos k hv))

/-- `UnitBase.__sub__` can never fall through to `None`: whenever the inner constructor raises, the
    guard `difference <= 0` of the `except` branch holds, so the error is re-raised -/
theorem sub_none_unreachable (a o : Qty) (e : Err)
    (h : mk a.kind (a.value - conv T o a.unit) a.unit = .error e) : a.value - conv T o a.unit ≤ 0 :=
  mk_error_nonpos h

theorem addSub_valid {f : Err → Err} {a o r : Qty} {v w : Q} (h : addSub f a o v w = .ok (.q r)) : Valid r := by
  obtain ⟨-, hv, hr⟩ := addSub_eq_ok.mp h
  split at hr
  · obtain ⟨hw, hr⟩ := hr; cases hr; exact hw
  · cases hr; exact hv

theorem add_valid (a : Qty) (b : Val) (r : Qty) (h : add T a b = .ok (.q r)) : Valid r := by
  cases b with
  | n x => cases h
  | q o => exact addSub_valid (add_eq_addSub a o ▸ h)

theorem sub_valid (a : Qty) (b : Val) (r : Qty) (h : sub T a b = .ok (.q r)) : Valid r := by
  cases b with
  | n x => cases h
  | q o => exact addSub_valid (sub_eq_addSub a o ▸ h)

theorem mul_valid (a : Qty) (b : Val) (r : Qty) (h : mul T a b = .ok (.q r)) : Valid r := by
  cases b with
  | n x => obtain ⟨-, -, hs, hr⟩ := mul_num_eq_ok.mp h; cases hr; exact hs
  | q o => obtain ⟨k, -, hs, hr⟩ := mul_qty_eq_ok.mp h; cases hr; exact hs

theorem div_valid (a : Qty) (b : Val) (r : Qty) (h : div T a b = .ok (.q r)) : Valid r := by
  cases b with
  | n x => obtain ⟨-, hs, hr⟩ := div_num_eq_ok.mp h; cases hr; exact hs
  | q o =>
    obtain ⟨-, hr⟩ := div_qty_eq_ok.mp h
    split at hr
    · cases hr
    · obtain ⟨k, -, hs, hr⟩ := hr; cases hr; exact hs

theorem toInplace_valid (g : T.Good) (a : Qty) (u : Nat) (h : Valid a) : Valid (toInplace T a u) :=
  (signOk_conv g a u).trans h

/-- operations of a straight-line program; operands are indices into the store -/
inductive POp
  | new (k : Kind) (v : Q) (u : Nat)
  | add (i j : Nat) | sub (i j : Nat) | mul (i j : Nat) | div (i j : Nat)
  | mulN (i : Nat) (x : Q) | rmulN (x : Q) (i : Nat) | divN (i : Nat) (x : Q)
  | abs (i : Nat) | neg (i : Nat)
  | toC (i : Nat) (u : Nat) | toI (i : Nat) (u : Nat)
  | drop (i : Nat)

def push (s : List Qty) : Except Err Val → List Qty
  | .ok (.q r) => s ++ [r]
  | _ => s

def pushQ (s : List Qty) : Except Err Qty → List Qty
  | .ok r => s ++ [r]
  | _ => s

/-- one program step; an operation that raises (or returns a plain number) leaves the store as it was -/
def step (T : Tbl) (s : List Qty) : POp → List Qty
  | .new k v u => pushQ s (mk k v u)
  | .add i j => match s[i]?, s[j]? with | some a, some b => push s (Gearpy.add T a (.q b)) | _, _ => s
  | .sub i j => match s[i]?, s[j]? with | some a, some b => push s (Gearpy.sub T a (.q b)) | _, _ => s
  | .mul i j => match s[i]?, s[j]? with | some a, some b => push s (Gearpy.mul T a (.q b)) | _, _ => s
  | .div i j => match s[i]?, s[j]? with | some a, some b => push s (Gearpy.div T a (.q b)) | _, _ => s
  | .mulN i x => match s[i]? with | some a => push s (Gearpy.mul T a (.n x)) | none => s
  | .rmulN x i => match s[i]? with | some a => push s (Gearpy.rmul T x a) | none => s
  | .divN i x => match s[i]? with | some a => push s (Gearpy.div T a (.n x)) | none => s
  | .abs i => match s[i]? with | some a => pushQ s (abs' a) | none => s
  | .neg i => match s[i]? with | some a => pushQ s (Gearpy.neg a) | none => s
  | .toC i u => match s[i]? with | some a => pushQ s (toCopy T a u) | none => s
  | .toI i u => s.modify i (fun a => Gearpy.toInplace T a u)
  | .drop i => s.eraseIdx i

def AllValid (s : List Qty) : Prop := ∀ q ∈ s, Valid q

theorem pushQ_valid {s : List Qty} {r : Except Err Qty} (hs : AllValid s)
    (hr : ∀ q, r = .ok q → Valid q) : AllValid (pushQ s r) := by
  cases r with
  | error e => exact hs
  | ok q => exact List.forall_mem_append.mpr ⟨hs, List.forall_mem_singleton.mpr (hr q rfl)⟩

theorem push_valid {s : List Qty} {r : Except Err Val} (hs : AllValid s)
    (hr : ∀ q, r = .ok (.q q) → Valid q) : AllValid (push s r) := by
  cases r with
  | error e => exact hs
  | ok v =>
    cases v with
    | n x => exact hs
    | q q => exact pushQ_valid (r := .ok q) hs fun _ h => hr _ (by rw [Except.ok.inj h])

/-- one step keeps every live object valid -/
theorem step_valid (g : T.Good) (s : List Qty) (op : POp) (hs : AllValid s) : AllValid (step T s op) := by
  -- an operand that is not in the store leaves it as it was
  have look (x : Option Qty) {k : Qty → List Qty} (hk : ∀ a, AllValid (k a)) :
      AllValid (match x with | some a => k a | none => s) := by
    split
    · exact hk _
    · exact hs
  have look₂ (x y : Option Qty) {k : Qty → Qty → List Qty} (hk : ∀ a b, AllValid (k a b)) :
      AllValid (match x, y with | some a, some b => k a b | _, _ => s) := by
    split
    · exact hk _ _
    · exact hs
  cases op with
  | new k v u => exact pushQ_valid hs fun _ => mk_valid
  | add i j => exact look₂ s[i]? s[j]? fun a b => push_valid hs (add_valid a (.q b))
  | sub i j => exact look₂ s[i]? s[j]? fun a b => push_valid hs (sub_valid a (.q b))
  | mul i j => exact look₂ s[i]? s[j]? fun a b => push_valid hs (mul_valid a (.q b))
  | div i j => exact look₂ s[i]? s[j]? fun a b => push_valid hs (div_valid a (.q b))
  | mulN i x => exact look s[i]? fun a => push_valid hs (mul_valid a (.n x))
  | rmulN x i => exact look s[i]? fun a => push_valid hs (mul_valid a (.n x))
  | divN i x => exact look s[i]? fun a => push_valid hs (div_valid a (.n x))
  | abs i => exact look s[i]? fun a => pushQ_valid hs fun _ => mk_valid
  | neg i => exact look s[i]? fun a => pushQ_valid hs fun _ => mk_valid
  | toC i u => exact look s[i]? fun a => pushQ_valid hs fun _ => mk_valid
  | toI i u =>
      intro q hq
      obtain ⟨n, hn, rfl⟩ := List.mem_iff_getElem.mp hq
      have hn' : n < s.length := by simpa [step] using hn
      have := hs _ (List.getElem_mem hn')
      simp only [step, List.getElem_modify]
      split
      · exact toInplace_valid g _ u this
      · exact this
  | drop i => exact fun q hq => hs q (List.mem_of_mem_eraseIdx hq)

theorem valid_inv (g : T.Good) (ops : List POp) (s : List Qty) (hs : AllValid s) :
    AllValid (ops.foldl (step T) s) := by
  induction ops generalizing s with
  | nil => exact hs
  | cons o os ih => exact ih _ (step_valid g s o hs)

/-- … in particular at every intermediate point of the program -/
theorem valid_inv_prefix (g : T.Good) (ops₁ ops₂ : List POp) :
    AllValid ((ops₁).foldl (step T) []) ∧ AllValid ((ops₁ ++ ops₂).foldl (step T) []) :=
  ⟨valid_inv g ops₁ [] (by intro q h; simp at h), valid_inv g _ [] (by intro q h; simp at h)⟩

/-! ### component constructors -/

/-- the motor constructor accepts exactly: positive no-load speed and maximum torque, non-negative
    no-load current, positive maximum current, no-load current below the maximum current -/
theorem motorCtor_ok_iff (w0 tmax : Q) (i0 imax : Option Q) (ge : Bool) :
    motorCtor w0 tmax i0 imax ge = .ok () ↔
      0 < w0 ∧ 0 < tmax ∧ (∀ x, i0 = some x → 0 ≤ x) ∧ (∀ x, imax = some x → 0 < x) ∧
      ¬ (i0.isSome = true ∧ imax.isSome = true ∧ ge = true) := by
  unfold motorCtor
  simp only [ite_error_eq_ok, not_le, and_true, Bool.and_eq_true, and_assoc]
  refine and_congr_right fun _ => and_congr_right fun _ => and_congr ?_ (and_congr_left fun _ => ?_)
  · cases i0 <;> simp
  · cases imax <;> simp

theorem setPwm_ok_iff (p : Q) : (∃ r, setPwm p = .ok r) ↔ -1 ≤ p ∧ p ≤ 1 := by
  unfold setPwm; split
  · exact iff_of_true ⟨p, rfl⟩ ‹_›
  · exact iff_of_false (fun ⟨_, h⟩ => nomatch h) ‹_›

/-- gear constructors: teeth number at least the first tabulated one -/
def teethOk (z : Int) : Bool := decide ((Gen.minTeeth : Int) ≤ z)
theorem teeth_ok_iff (z : Int) : teethOk z = true ↔ (Gen.minTeeth : Int) ≤ z := by simp [teethOk]

/-- the tabulated minimum is the first row of the Lewis table -/
theorem minTeeth_is_first_row : (Gen.lewisTable.head?.map (·.1)) = some (Gen.minTeeth : Q) :=
  lewis_first

/-! ### non-vacuity -/
example : AllValid ([POp.new length 3 0, POp.new length 2 1, POp.sub 0 1, POp.toI 0 3].foldl (step Gen.tbl) []) :=
  valid_inv gen_good _ _ (by intro q h; simp at h)

end Gearpy.C19
