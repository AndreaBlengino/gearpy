import Gearpy.Proofs.History
/-!
# C13 — a self-locking powertrain is never driven by its load

"Duty cycle in force" at an instant is the motor's duty-cycle attribute when that instant's lock
check runs, i.e. the value recorded at the previous instant (or set before the run): the lock
check precedes the instant's control.

* `never_clamped`: without a self-locking mating no record of any history is held;
* `sign_safe`: with one, whatever the load, the recorded motor speed is `0` if the duty in force
  is `0`, `≥ −tolW` if it is positive, `≤ tolW` if it is negative (`tolW` is the tolerance of the
  code's `speed < 0 rad/s`, zero when speeds are carried in rad/s);
* `held_still`: two consecutive held instants have all speeds and accelerations zero and equal
  positions;
* `engage_only_if`: a powertrain that was not held becomes held only if it is self-locking and the duty in force
  is null or the advanced motor speed opposes it (C03's "clamped only if self-locking engages at that instant");
* `release_only_if`: a held powertrain is released only when the motor's (previously recorded)
  net torque points in the direction commanded by the duty in force.
* history level — `run_safe`, `first_safe`, `schedule_safe`: the four clauses above hold between
  **every two consecutive recorded instants** (`SafeRel`, the duty in force being the one recorded at
  the earlier instant) of every run, continued or fresh, with any stop condition, and along every
  schedule of runs and resets; the first instant of a fresh run is judged against the attribute the
  motor had before the run.
The criterion `f > cos α · tan β` for the flag itself is C10's theorem.
-/

namespace Gearpy.C13
open Gearpy

theorem never_clamped (c : Cfg) (hsl : c.sl = false) (ops : List Op) (p v : Q) (s' : St)
    (he : exec c ops (St.init p v) = .ok s') : ∀ r ∈ s'.recs, r.locked = false :=
  fun r hr => (records_ok he r hr).unlocked hsl

theorem sign_safe (c : Cfg) (s s' : St) (t : Q) (hsl : c.sl = true) (htol : 0 ≤ c.tolW)
    (h : compute c s t = .ok s') :
    ∃ r, s'.recs = s.recs ++ [r] ∧
      (s.pwm = 0 → r.speed.headD 0 = 0) ∧
      (0 < s.pwm → -c.tolW ≤ r.speed.headD 0) ∧
      (s.pwm < 0 → r.speed.headD 0 ≤ c.tolW) := by
  obtain ⟨r, hr⟩ := compute_ok h
  exact ⟨r, hr.recs, hr.sign_safe hsl htol⟩

/-- the duty in force at a step of a run is the duty recorded at the previous instant -/
theorem duty_in_force (c : Cfg) (s s' : St) (t : Q) (hinv : s.locked = true → c.sl = true)
    (h : compute c s t = .ok s') : ∃ r, s'.recs = s.recs ++ [r] ∧ s'.pwm = r.pwm := by
  obtain ⟨r, hr⟩ := compute_ok h
  exact ⟨r, hr.recs, hr.pwm'⟩

theorem held_still (c : Cfg) (dt : Q) (s s' : St) (t : Q) (hinv : s.locked = true → c.sl = true)
    (hs0 : s.speed = 0) (ha0 : s.acc = 0) (h : stepAt c dt s t = .ok s') :
    ∃ b, s'.recs = s.recs ++ [b] ∧ lastD b.pos = s.pos ∧
      (b.locked = true → b.speed = zeros (c.links.length + 1) ∧ b.acc = zeros (c.links.length + 1)) := by
  obtain ⟨b, hb⟩ := stepAt_ok h
  refine ⟨b, hb.recs, ?_, hb.still⟩
  rw [hb.lastPos, hb.pos']; simp [integrate, hs0, ha0]

/-- after a held instant the live speed and acceleration are zero (so `held_still` applies to the next step) -/
theorem held_state (c : Cfg) (s s' : St) (t : Q) (hinv : s.locked = true → c.sl = true)
    (h : compute c s t = .ok s') (hl : s'.locked = true) : s'.speed = 0 ∧ s'.acc = 0 := by
  obtain ⟨r, hr⟩ := compute_ok h
  rw [hr.speed', hr.acc', ← hr.locked', hl]; exact ⟨rfl, rfl⟩

theorem release_only_if (c : Cfg) (s s' : St) (t : Q) (hlocked : s.locked = true)
    (h : compute c s t = .ok s') (hrel : s'.locked = false) :
    ∃ T, s.mtorque = some T ∧ ((c.tolT < T ∧ 0 < s.pwm) ∨ (T < -c.tolT ∧ s.pwm < 0)) := by
  obtain ⟨r, hr⟩ := compute_ok h
  exact hr.release hlocked (hr.locked' ▸ hrel)

/-- C13 / C03 ("clamped to zero only if self-locking engages at that instant"): a powertrain that was not held
    becomes held at an instant only if it is self-locking and the duty cycle in force is null or the (advanced,
    not yet clamped) motor speed opposes it -/
theorem engage_only_if (c : Cfg) (s s' : St) (t : Q) (hunl : s.locked = false)
    (h : compute c s t = .ok s') (hl : s'.locked = true) :
    c.sl = true ∧
      (s.pwm = 0 ∨ (0 < s.pwm ∧ (upstream (c.links.map (·.ratio)) s.speed).headD 0 < -c.tolW) ∨
        (s.pwm < 0 ∧ c.tolW < (upstream (c.links.map (·.ratio)) s.speed).headD 0)) := by
  obtain ⟨r, hr⟩ := compute_ok h
  rw [hr.locked', hr.locked, checkLock_iff, hunl] at hl
  simpa using hl

/-- what C13 demands between two consecutive instants `a`, `b` of a run on a self-locking powertrain:
    sign safety of the motor speed w.r.t. the duty cycle in force (the one recorded at `a`), standstill
    while held, release only with the motor's net torque in the commanded direction -/
def SafeRel (c : Cfg) (a b : Rec) : Prop :=
  (a.pwm = 0 → b.speed.headD 0 = 0) ∧
  (0 < a.pwm → -c.tolW ≤ b.speed.headD 0) ∧
  (a.pwm < 0 → b.speed.headD 0 ≤ c.tolW) ∧
  (b.locked = true → b.speed = zeros (c.links.length + 1) ∧ b.acc = zeros (c.links.length + 1)) ∧
  (a.locked = true → b.locked = true → lastD b.pos = lastD a.pos) ∧
  (a.locked = true → b.locked = false →
    (c.tolT < a.torque.headD 0 ∧ 0 < a.pwm) ∨ (a.torque.headD 0 < -c.tolT ∧ a.pwm < 0))

theorem step_safe (c : Cfg) (hsl : c.sl = true) (htol : 0 ≤ c.tolW) (dt : Q)
    (s s' : St) (t : Q) (a b : Rec) (hinv : Inv2 c s) (h : stepAt c dt s t = .ok s')
    (hb : s'.recs = s.recs ++ [b]) (ha : s.recs.getLast? = some a) : SafeRel c a b := by
  obtain ⟨hpwm, hlk, hpos, hspeed, hacc, hmt⟩ := hinv.2 a ha
  obtain ⟨r, hr⟩ := stepAt_ok h
  obtain rfl : r = b := by simpa [hr.recs, integrate] using hb
  have hsign : (integrate s dt).pwm = a.pwm := hpwm
  refine ⟨hsign ▸ (hr.sign_safe hsl htol).1, hsign ▸ (hr.sign_safe hsl htol).2.1, hsign ▸ (hr.sign_safe hsl htol).2.2,
    hr.still, fun hla _ => ?_, fun hla hlb => ?_⟩
  · -- `a` was held: the live speed and acceleration are zero, so integration does not move the position
    obtain ⟨hs0, ha0⟩ := (hinv.1.1 a (List.mem_of_getLast? ha)).lockedStill hla
    rw [hr.lastPos, hr.pos', ← hpos]
    simp [integrate, hspeed, hacc, hs0, ha0, lastD_zeros]
  · obtain ⟨T, hT, hcase⟩ := hr.release (hlk.trans hla) hlb
    obtain rfl : a.torque.headD 0 = T := by simpa [integrate, hmt] using hT
    exact hsign ▸ hcase

/-- C13 at history level: along every run (continued or fresh) of a self-locking powertrain, every
    two consecutive recorded instants satisfy `SafeRel`, whatever the load, the controller and the
    stop condition -/
theorem run_safe (c : Cfg) (hsl : c.sl = true) (htol : 0 ≤ c.tolW) (dt : Q) (n : Nat) (stop)
    (s s' : St) (hinv : Inv2 c s) (h : run c dt n stop s = .ok s') :
    ∃ new, s'.recs = s.recs ++ new ∧ Pairs (SafeRel c) (s.recs.getLast?.toList ++ new) ∧ Inv2 c s' :=
  run_pairs c dt n stop (SafeRel c) (step_safe c hsl htol dt) s s' hinv h

theorem first_safe (c : Cfg) (hsl : c.sl = true) (htol : 0 ≤ c.tolW) (dt : Q) (n : Nat) (stop)
    (s s' : St) (h0 : s.recs = []) (h : run c dt n stop s = .ok s') :
    ∃ r0, s'.recs.head? = some r0 ∧
      (s.pwm = 0 → r0.speed.headD 0 = 0) ∧ (0 < s.pwm → -c.tolW ≤ r0.speed.headD 0) ∧
      (s.pwm < 0 → r0.speed.headD 0 ≤ c.tolW) := by
  obtain ⟨r, s0, rest, hr, hrr⟩ := run_fresh_head h0 h
  exact ⟨r, by rw [hrr]; rfl, hr.sign_safe hsl htol⟩

/-- C13 over whole schedules: after any sequence of runs (any time steps, durations, stop
    conditions; fresh or continued) and resets on a self-locking powertrain, all consecutive
    recorded instants satisfy `SafeRel` -/
theorem schedule_safe (c : Cfg) (hsl : c.sl = true) (htol : 0 ≤ c.tolW) (ops : List Op) (hops : RunsAndResets ops)
    (p v : Q) (s' : St) (h : exec c ops (St.init p v) = .ok s') : Pairs (SafeRel c) s'.recs :=
  (exec_pairs c (SafeRel c) (step_safe c hsl htol)
    ops hops _ s' (init_inv2 c p v) trivial h).1

/-! ### non-vacuity: a self-locking chain overloaded backwards is held from the second instant on -/
def exCfg : Cfg :=
  { J0 := 1, links := [⟨30, 2/5, 1/2, true⟩], sl := true, tolW := 0, tolT := 0,
    motorTorque := fun w D => (1 - w / 100) * 2 * D, motorCurrent := fun _ _ => none,
    load := fun _ _ _ => 500, control := none }
example : (match exec exCfg [.run (1/4) 3 none] (St.init 0 0) with
    | .ok s => s.recs.map (·.locked) | .error _ => []) = [false, true, true, true] := by decide +kernel

example : RunsAndResets [.run (1/4) 3 none, .reset, .run (1/8) 2 none] := by simp [RunsAndResets]

end Gearpy.C13
