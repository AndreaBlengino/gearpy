import Gearpy.Properties.C05
import Gearpy.Properties.C06
import Gearpy.Properties.C12
import Gearpy.Proofs.UnitStep
/-!
# C07 — results do not depend on the units inputs are expressed in

Architecture of the argument.  The solver, motor, gear and control models run on SI magnitudes
only (`Cfg`, `MotorP`, `Rule` hold plain rationals), so two models whose inputs have equal SI
magnitudes are *the same* configuration and produce the same records.  That this is a faithful
picture of the code rests on:
1. **congruence** of every unit-aware operation the code combines quantities with — the SI
   magnitude of the result is a function of the operands' SI magnitudes only
   (`conv_congr`, `add_congr`, `mul_congr`, `div_congr`, from C05/C06), and comparisons decide on SI
   magnitudes once the gap exceeds the tolerance (`cmp_congr`);
2. the **raw-value sites**, where the code reads `.value` or looks a float up, modelled on
   unit-carrying quantities and proved unit-independent one by one:
   `step_unit_invariant` / `chain_units` (the time-step update and the chain arithmetic as the code
   performs them on quantities), `grid_unit_invariant` (time axis of `Solver.run`, repairs D1/D2), `signTest_unit_invariant`
   (constructor tests such as `no_load_speed.value <= 0`), `wormRow_unit_invariant` (tolerant
   lookup of the worm pressure angle, repair D5), `scaledValue_si` (the motor laws'
   `Torque(value = k·T_max.value, unit = T_max.unit)`), `cmpRaw_scale` (every threshold test:
   comparing raw values in the receiver's unit = comparing SI magnitudes with the tolerance
   expressed in SI).
The end-to-end statement is checked by the metamorphic harness (same model, independently drawn
units for every input, both runs compared in SI).
-/

namespace Gearpy.C07
open Gearpy Gearpy.Kind

variable {T : Tbl}

theorem conv_congr (g : T.Good) (a r : Qty) (u : Nat) (h : toCopy T a u = .ok r) : siMag T r = siMag T a :=
  C05.toCopy_si g a r u h

theorem add_congr (g : T.Good) (a o a' o' r r' : Qty) (ha : siMag T a = siMag T a') (ho : siMag T o = siMag T o')
    (h : add T a (.q o) = .ok (.q r)) (h' : add T a' (.q o') = .ok (.q r')) : siMag T r = siMag T r' := by
  rw [C06.add_si g a o r h, C06.add_si g a' o' r' h', ha, ho]

theorem mul_congr (g : T.Good) (a a' : Qty) (b b' : Val) (r r' : Qty) (ha : siMag T a = siMag T a')
    (hb : C06.valSI T b = C06.valSI T b') (h : mul T a b = .ok (.q r)) (h' : mul T a' b' = .ok (.q r')) :
    siMag T r = siMag T r' := by
  rw [C06.mul_si g a b r h, C06.mul_si g a' b' r' h', ha, hb]

theorem div_congr (g : T.Good) (a a' : Qty) (b b' : Val) (r r' : Qty) (ha : siMag T a = siMag T a')
    (hb : C06.valSI T b = C06.valSI T b') (h : div T a b = .ok (.q r)) (h' : div T a' b' = .ok (.q r')) :
    siMag T r = siMag T r' := by
  rw [C06.div_si g a b r h, C06.div_si g a' b' r' h', ha, hb]

/-- ratios of same-family quantities (gear ratios of lengths, speed ratios, …) depend on SI magnitudes only -/
theorem ratio_congr (g : T.Good) (a o a' o' : Qty) (x x' : Q) (ha : siMag T a = siMag T a') (ho : siMag T o = siMag T o')
    (h : div T a (.q o) = .ok (.n x)) (h' : div T a' (.q o') = .ok (.n x')) : x = x' := by
  rw [C06.div_num_si g a o x h, C06.div_num_si g a' o' x' h', ha, ho]

theorem cmp_congr (g : T.Good) (c : Cmp) (a o a' o' : Qty) (b b' : Bool)
    (ha : siMag T a = siMag T a') (ho : siMag T o = siMag T o')
    (h : cmp T c a (.q o) = .ok b) (h' : cmp T c a' (.q o') = .ok b')
    (hgap : T.tol * T.f (effLeft a o).kind (effLeft a o).unit < qabs (siMag T a - siMag T o))
    (hgap' : T.tol * T.f (effLeft a' o').kind (effLeft a' o').unit < qabs (siMag T a' - siMag T o')) :
    b = b' := by
  rw [C05.cmp_distinct_partial g c a o b h hgap, C05.cmp_distinct_partial g c a' o' b' h' hgap', ha, ho]

theorem grid_unit_invariant (g : T.Good) (last last' : Option Qty) (dt dt' sim sim' : Qty)
    (hd : IsTime dt) (hd' : IsTime dt') (hs : IsTime sim) (hs' : IsTime sim')
    (hl : ∀ l, last = some l → IsTime l) (hl' : ∀ l, last' = some l → IsTime l)
    (e1 : siMag T dt = siMag T dt') (e2 : siMag T sim = siMag T sim')
    (e3 : last.map (siMag T) = last'.map (siMag T)) :
    (gridU T last dt sim).map (siMag T) = (gridU T last' dt' sim').map (siMag T) :=
  C12.run_split_units g last last' dt dt' sim sim' hd hd' hs hs' hl hl' e1 e2 e3

theorem signTest_unit_invariant (g : T.Good) (q : Qty) :
    (q.value ≤ 0 ↔ siMag T q ≤ 0) ∧ (q.value < 0 ↔ siMag T q < 0) := by
  have hp := g.pos q.kind q.unit
  unfold siMag
  exact ⟨by rw [← not_lt, ← not_lt, mul_pos_iff_of_pos_right hp],
    by rw [← not_le, ← not_le, mul_nonneg_iff_of_pos_right hp]⟩

theorem scaledValue_si (q : Qty) (k : Q) : siMag T ⟨q.kind, k * q.value, q.unit⟩ = k * siMag T q := by
  unfold siMag; ring

/-- raw-value site: the worm pressure angle is located in the table by `==` against the tabulated
    angles (in degrees), not by an exact float key -/
def wormRow (T : Tbl) (degUnit : Nat) (pa : Qty) : Option Nat :=
  Gen.wormTable.findIdx? fun row => cmpDirect T .eq ⟨angle, row.1, degUnit⟩ pa

theorem wormRow_unit_invariant (g : T.Good) (degUnit : Nat) (pa pa' : Qty)
    (hk : baseOf pa.kind = angPos) (hk' : baseOf pa'.kind = angPos)
    (hsi : siMag T pa = siMag T pa') (hu : (degUnit == pa.unit) = (degUnit == pa'.unit)) :
    wormRow T degUnit pa = wormRow T degUnit pa' := by
  unfold wormRow
  congr 1
  funext row
  rw [cmpDirect_si g .eq ⟨angle, row.1, degUnit⟩ pa (by show baseOf angle = baseOf pa.kind; rw [hk]; rfl),
      cmpDirect_si g .eq ⟨angle, row.1, degUnit⟩ pa' (by show baseOf angle = baseOf pa'.kind; rw [hk']; rfl), hsi]
  simp only [hu]

/-- the time-step update computed by the code on quantities: two sets of operands with pairwise
    equal SI magnitudes (any units) give results with equal SI magnitudes -/
theorem step_unit_invariant (g : T.Good) (pos speed acc dt pos' speed' acc' dt' p v p' v' : Qty)
    (e1 : siMag T pos = siMag T pos') (e2 : siMag T speed = siMag T speed') (e3 : siMag T acc = siMag T acc')
    (e4 : siMag T dt = siMag T dt')
    (h : integrateU T pos speed acc dt = .ok (p, v)) (h' : integrateU T pos' speed' acc' dt' = .ok (p', v')) :
    siMag T p = siMag T p' ∧ siMag T v = siMag T v' := by
  obtain ⟨a1, a2⟩ := integrateU_si g pos speed acc dt p v h
  obtain ⟨b1, b2⟩ := integrateU_si g pos' speed' acc' dt' p' v' h'
  rw [a1, a2, b1, b2, e1, e2, e3, e4]; exact ⟨rfl, rfl⟩

theorem chain_units (g : T.Good) (x r : Qty) (ratio eff : Q) :
    (transmitU T ratio x = .ok r → siMag T r = ratio * siMag T x) ∧
    (driveU T x eff ratio = .ok r → siMag T r = siMag T x * eff * ratio) ∧
    (loadU T x eff ratio = .ok r → siMag T r = siMag T x / eff / ratio) :=
  ⟨transmitU_si g ratio x r, driveU_si g x r eff ratio, loadU_si g x r eff ratio⟩

/-- two configurations given by SI magnitudes are equal as soon as their magnitudes are: the
    SI-level model cannot observe units -/
theorem simulation_unit_invariant (c c' : Cfg) (ops : List Op) (s : St) (h : c = c') :
    exec c ops s = exec c' ops s := by rw [h]

/-! ### non-vacuity: 14.5 deg given in rad is found in row 0 like 14.5 deg itself -/
example : wormRow Gen.tbl 1 ⟨angle, 29/2, 1⟩ = some 0 := by decide +kernel
example : wormRow Gen.tbl 1 ⟨angle, conv Gen.tbl ⟨angle, 29/2, 1⟩ 0, 0⟩ = some 0 := by decide +kernel

end Gearpy.C07
