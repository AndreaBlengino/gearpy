import Gearpy.Proofs.History
import Gearpy.Model.Control
/-!
# C16 — a stop condition ends the run at the first instant it holds

`stop_prefix`: the loop with a stop predicate `f` returns exactly what the loop without it returns
over a prefix `us` of the grid (`ts = us ++ vs`); `f` is false on the record of every strict
non-empty prefix of `us` (every earlier computed instant), and if the run ended early (`vs ≠ []`)
`f` is true on the last record.  Nothing is recorded after it (`stop_times`).  The initial
instant of a fresh run is never tested (`fresh_run_records_two`).
`run_stop_steps` lifts this to `Solver.run`, fresh or continued: the stopped run of `n` steps *is* the unstopped run
of `m ≤ n` steps, true at its end if `m < n`, false at the end of every run of `1 ≤ k < m` steps;
`stop_steps_unique`: that `m` is unique.
`stopCond` instantiates `f` with a sensor reading, one of the five operators and a threshold.
-/

namespace Gearpy.C16
open Gearpy

theorem stop_prefix (c : Cfg) (dt : Q) (f : Rec → Bool) (ts : List Q) (s s' : St)
    (h : loop c dt (some f) ts s = .ok s') :
    ∃ us vs, ts = us ++ vs ∧ loop c dt none us s = .ok s' ∧
      (vs ≠ [] → stopNow (some f) s' = true) ∧
      (∀ us1 us2 sm, us = us1 ++ us2 → us1 ≠ [] → us2 ≠ [] → loop c dt none us1 s = .ok sm →
          stopNow (some f) sm = false) := by
  induction ts generalizing s with
  | nil =>
    refine ⟨[], [], rfl, h, by simp, fun us1 us2 sm he hne => ?_⟩
    exact absurd (List.append_eq_nil_iff.mp he.symm).1 hne
  | cons t ts ih =>
    obtain ⟨s1, h1, h⟩ := loop_cons.mp h
    have hstep {us sm} : loop c dt none (t :: us) s = .ok sm ↔ loop c dt none us s1 = .ok sm := by
      rw [loop_cons]; simp [h1, stopNow]
    split at h
    · rename_i hs
      subst h
      refine ⟨[t], ts, rfl, hstep.mpr rfl, fun _ => hs, fun us1 us2 sm he hne1 hne2 => ?_⟩
      -- a one-element list has no splitting into two non-empty parts
      have := congrArg List.length he
      have := List.length_pos_iff.mpr hne1
      have := List.length_pos_iff.mpr hne2
      simp at *; omega
    · rename_i hs
      obtain ⟨us, vs, hts, hl, hv, hp⟩ := ih s1 h
      refine ⟨t :: us, vs, by rw [hts]; rfl, hstep.mpr hl, hv, fun us1 us2 sm he hne1 hne2 hlm => ?_⟩
      match us1, hne1 with
      | a :: us1', _ =>
        obtain ⟨rfl, he'⟩ := List.cons.inj he
        rw [hstep] at hlm
        by_cases hn : us1' = []
        · subst hn; simp only [loop, Except.ok.injEq] at hlm; subst hlm; simpa using hs
        · exact hp us1' us2 sm he' hn hne2 hlm

theorem stop_times (c : Cfg) (dt : Q) (f : Rec → Bool) (ts : List Q) (s s' : St)
    (h : loop c dt (some f) ts s = .ok s') :
    ∃ us vs, ts = us ++ vs ∧ s'.recs.map (·.time) = s.recs.map (·.time) ++ us := by
  obtain ⟨us, vs, hts, hl, _, _⟩ := stop_prefix c dt f ts s s' h
  exact ⟨us, vs, hts, loop_times c dt us s s' hl⟩

/-- the initial instant of a fresh run is never tested: whatever the stop predicate says about it, a
    fresh run of `n ≥ 1` steps that does not fail records the initial instant **and at least one more** -/
theorem fresh_run_records_two (c : Cfg) (dt : Q) (n : Nat) (f : Rec → Bool) (s s' : St) (h0 : s.recs = [])
    (h : run c dt (n + 1) (some f) s = .ok s') : 2 ≤ s'.recs.length := by
  obtain ⟨r0, s0, hr0, h⟩ := run_fresh_ok h0 h
  -- the stop condition is consulted only after a step: the first grid point is always computed
  cases hg : grid 0 dt (n + 1) with
  | nil => simpa [grid_length] using congrArg List.length hg
  | cons t ts =>
    rw [hg] at h
    obtain ⟨s1, h1, h⟩ := loop_cons.mp h
    obtain ⟨r1, hr1, _⟩ := stepAt_recs h1
    have h2 : 2 ≤ s1.recs.length := by rw [hr1, hr0.recs]; simp
    split at h
    · exact h ▸ h2
    · obtain ⟨new, hn⟩ := loop_recs_append h
      rw [hn, List.length_append]; omega

/-- the predicate tested is the comparison of the sensor's reading of the record just appended -/
theorem stopNow_stopCond (cx : CmpCtx) (sen : Sensor) (op : Cmp) (thr : Q) (s : St) (r : Rec)
    (h : s.recs.getLast? = some r) :
    stopNow (some (stopCond cx sen op thr)) s = cmpSI cx op (sen.read r) thr := by
  simp [stopNow, h, stopCond]

/-! ### at the level of `Solver.run`: the stopped run is the unstopped run of the first step count that satisfies the condition -/
theorem grid_take (t0 dt : Q) (n m : Nat) (h : m ≤ n) : (grid t0 dt n).take m = grid t0 dt m := by
  simp [grid, ← List.map_take, List.take_range, Nat.min_eq_left h]

/-- the stopped loop over `n` grid points is the unstopped loop over the first `m ≤ n` of them, `m` being the
    **first** step count at which the predicate holds -/
theorem loop_stop_steps (c : Cfg) (dt : Q) (f : Rec → Bool) (t0 : Q) (n : Nat) (s s' : St)
    (h : loop c dt (some f) (grid t0 dt n) s = .ok s') :
    ∃ m, m ≤ n ∧ loop c dt none (grid t0 dt m) s = .ok s' ∧ (m < n → stopNow (some f) s' = true) ∧
      ∀ k sm, 0 < k → k < m → loop c dt none (grid t0 dt k) s = .ok sm → stopNow (some f) sm = false := by
  obtain ⟨us, vs, hts, hl, hv, hp⟩ := stop_prefix c dt f _ s s' h
  have hlen : us.length + vs.length = n := by
    have := congrArg List.length hts; simp [grid] at this; omega
  have hus : us = grid t0 dt us.length := by
    have := congrArg (List.take us.length) hts
    rw [grid_take t0 dt n us.length (by omega)] at this
    simpa using this.symm
  refine ⟨us.length, by omega, by rw [← hus]; exact hl, ?_, ?_⟩
  · intro hm; apply hv; intro he; subst he; simp at hlen; omega
  · intro k sm hk hkm hlk
    have hk' : grid t0 dt k = us.take k := by
      have := grid_take t0 dt us.length k (by omega)
      rw [← hus] at this; exact this.symm
    refine hp (us.take k) (us.drop k) sm (List.take_append_drop k us).symm ?_ ?_ (by rw [← hk']; exact hlk)
    · intro he
      have : (us.take k).length = 0 := by rw [he]; rfl
      rw [List.length_take] at this; omega
    · intro he
      have : (us.drop k).length = 0 := by rw [he]; rfl
      rw [List.length_drop] at this; omega

/-- **C16 at the level of `Solver.run`** (fresh or continued): a run of `n` steps with a stop condition returns
    exactly what the run of `m ≤ n` steps without one returns; if it ended early (`m < n`) the comparison is true at
    the last recorded instant; and it is false at the end of every shorter run of `1 ≤ k < m` steps — i.e. at every
    earlier computed instant.  The initial instant (`k = 0`) is not tested. -/
theorem run_stop_steps (c : Cfg) (dt : Q) (n : Nat) (f : Rec → Bool) (s s' : St)
    (h : run c dt n (some f) s = .ok s') :
    ∃ m, m ≤ n ∧ run c dt m none s = .ok s' ∧ (m < n → stopNow (some f) s' = true) ∧
      ∀ k sm, 0 < k → k < m → run c dt k none s = .ok sm → stopNow (some f) sm = false := by
  rcases run_eq_loop c dt s with ⟨e, he⟩ | ⟨t0, s0, hr⟩
  · rw [he] at h; cases h
  · simp only [hr] at h ⊢; exact loop_stop_steps c dt f t0 n s0 s' h

theorem stop_steps_unique (c : Cfg) (dt : Q) (n : Nat) (f : Rec → Bool) (s s1 s2 : St) (m1 m2 : Nat)
    (h1 : run c dt m1 none s = .ok s1) (h2 : run c dt m2 none s = .ok s2)
    (e1 : m1 < n → stopNow (some f) s1 = true) (e2 : m2 < n → stopNow (some f) s2 = true)
    (p1 : ∀ k sm, 0 < k → k < m1 → run c dt k none s = .ok sm → stopNow (some f) sm = false)
    (p2 : ∀ k sm, 0 < k → k < m2 → run c dt k none s = .ok sm → stopNow (some f) sm = false)
    (l1 : m1 ≤ n) (l2 : m2 ≤ n) (z1 : 0 < m1) (z2 : 0 < m2) : m1 = m2 := by
  rcases Nat.lt_trichotomy m1 m2 with hlt | heq | hgt
  · have := p2 m1 s1 z1 hlt h1
    rw [e1 (by omega)] at this; exact absurd this (by simp)
  · exact heq
  · have := p1 m2 s2 z2 hgt h2
    rw [e2 (by omega)] at this; exact absurd this (by simp)

/-! ### non-vacuity: a run of 6 steps with `time ≥ 1/2` stops after 2 steps (3 records) -/
def exCfg : Cfg :=
  { J0 := 1, links := [⟨2, 9/10, 1/2, true⟩], sl := false, tolW := 0, tolT := 0,
    motorTorque := fun w D => (1 - w / 100) * 2 * D, motorCurrent := fun _ _ => none,
    load := fun _ _ _ => 1/10, control := none }
example : (match exec exCfg [.run (1/4) 6 (some fun r => decide (r.time ≥ 1/2))] (St.init 0 0) with
    | .ok s => s.recs.length | .error _ => 0) = 3 := by decide +kernel

/-- the stopped run of 6 steps records what the unstopped run of 2 steps records (`run_stop_steps` with `m = 2`) -/
example : (match exec exCfg [.run (1/4) 6 (some fun r => decide (r.time ≥ 1/2))] (St.init 0 0) with
    | .ok s => s.recs.map (fun (r : Rec) => (r.time, r.speed, r.pos)) | .error _ => []) =
    (match exec exCfg [.run (1/4) 2 none] (St.init 0 0) with
    | .ok s => s.recs.map (fun (r : Rec) => (r.time, r.speed, r.pos)) | .error _ => []) := by decide +kernel

end Gearpy.C16
