import Gearpy.Model.Control
import Gearpy.Properties.C08
import Mathlib.Tactic.Ring
import Mathlib.Tactic.FieldSimp
import Mathlib.Tactic.Linarith
import Mathlib.Tactic.LinearCombination
/-!
# C15 — each control rule applies in its documented window with its documented value

With exact comparisons (`exactCtx`: both operands in the same unit; a tolerant context only moves
the window edges by `tol`):
* `constant_window`: ConstantPWM proposes its constant exactly while `start ≤ t ∧ t − start ≤ dur`;
* `reach_rule`: ReachAngularPosition proposes `1 − (θ − θ_s)/θ_b` once
  `θ ≥ θ_s = target − θ_b + static error`, the static error being
  `load₀ / T_max / η_t · θ_b` (`η_t` = efficiency product over the gear matings); `reach_le_one`;
* `ramp_rule`, `ramp_at_zero`, `ramp_at_target`: StartProportional… proposes the
  linear ramp from the minimum duty cycle (at θ = 0) to 1 (at θ = target) while `θ ≤ target`;
* `limit_rule`: StartLimitCurrent proposes `½(s + e + √disc)` while `θ ≤ target`;
  `limit_root`: that value solves `D² − (s+e)D + n s = 0`; `limit_outside_deadzone`: it lies
  above `i₀/i_max` when `i_lim > i₀ > 0`; and the cross-module guarantee
  `limit_current_exact`: **the motor's own current law evaluated at that duty cycle and the
  present speed yields exactly the limit current** — with C02's `C02_current` (the recorded
  current is the current law at the recorded duty cycle and driving torque) the recorded
  current equals the limit while the rule is in force and not clipped.
`√` is a parameter: the only facts used are `r ≥ 0` and `r² = disc`.
-/

namespace Gearpy.C15
open Gearpy

def exactCtx : CmpCtx := { exact := true, tol := 0 }

theorem cmpSI_exact_ge (a b : Q) : cmpSI exactCtx .ge a b = decide (b ≤ a) := rfl
theorem cmpSI_exact_le (a b : Q) : cmpSI exactCtx .le a b = decide (a ≤ b) := rfl

theorem constant_window (e : CtlEnv) (i : CtlIn) (start dur value : Q) :
    (Rule.constant exactCtx exactCtx start dur value).apply e i =
      .ok (if start ≤ i.time ∧ i.time - start ≤ dur then some (some value) else none) := by
  simp only [Rule.apply, timerActive, cmpSI_exact_ge, cmpSI_exact_le, Bool.and_eq_true, decide_eq_true_eq]

/-- the timer with tolerant comparisons: the window edges move by at most the tolerances -/
theorem timer_tolerant (cGe cLe : CmpCtx) (start dur t : Q) (h1 : cGe.exact = false) (h2 : cLe.exact = false) :
    timerActive cGe cLe start dur t = true ↔ (-cGe.tol ≤ t - start ∧ t - start - dur ≤ cLe.tol) := by
  simp [timerActive, cmpSI, cmpRaw, h1, h2]

theorem reach_rule (e : CtlEnv) (i : CtlIn) (idx : Nat) (target braking se : Q)
    (hse : staticError e i.load0 braking = .ok se) (hb : braking ≠ 0) :
    (Rule.reach exactCtx idx target braking).apply e i =
      .ok (if target - braking + se ≤ i.pos.getD idx 0
           then some (some (1 - (i.pos.getD idx 0 - (target - braking + se)) / braking)) else none) := by
  simp only [Rule.apply, hse, cmpSI_exact_ge, decide_eq_true_eq, hb, if_false]
  split <;> rfl

theorem staticError_value (e : CtlEnv) (load0 braking : Q) (h : 0 ≤ load0 / e.motor.tmax / e.eff) :
    staticError e load0 braking = .ok (load0 / e.motor.tmax / e.eff * braking) := by
  unfold staticError; exact if_neg (not_lt.2 h)

theorem reach_le_one (x start braking : Q) (hb : 0 < braking) (hx : start ≤ x) :
    1 - (x - start) / braking ≤ 1 :=
  sub_le_self 1 (div_nonneg (sub_nonneg.2 hx) hb.le)

theorem ramp_rule (e : CtlEnv) (i : CtlIn) (idx : Nat) (target mult : Q) (pmin : Option Q)
    (hpm : mult * pwmMinFn e i.firstLoad0 ≠ 0) (ht : target ≠ 0) :
    (Rule.startProp exactCtx idx target mult pmin).apply e i =
      .ok (if i.pos.getD idx 0 ≤ target
           then some (some ((1 - mult * pwmMinFn e i.firstLoad0) * i.pos.getD idx 0 / target + mult * pwmMinFn e i.firstLoad0))
           else none) := by
  simp only [Rule.apply, hpm, ne_eq, not_false_eq_true, if_true, cmpSI_exact_le, decide_eq_true_eq, ht, if_false]
  split <;> rfl

theorem ramp_at_zero (pm target : Q) : (1 - pm) * 0 / target + pm = pm := by ring
theorem ramp_at_target (pm target : Q) (ht : target ≠ 0) : (1 - pm) * target / target + pm = 1 := by
  rw [mul_div_cancel_right₀ _ ht, sub_add_cancel]

/-- the minimum duty cycle: load referred to the motor over the torque the current margin can give, plus the dead zone -/
theorem pwmMin_value (e : CtlEnv) (i0 imax : Q) (hc : e.motor.cur = some (i0, imax)) (load : Q) :
    pwmMinFn e load = 1 / e.eff * (load / e.motor.tmax) * ((imax - i0) / imax) + i0 / imax := by
  unfold pwmMinFn; rw [hc]

theorem limit_rule (e : CtlEnv) (i : CtlIn) (eIdx tIdx : Nat) (target ilim i0 imax : Q)
    (hc : e.motor.cur = some (i0, imax)) :
    (Rule.startLimit exactCtx eIdx tIdx target ilim).apply e i =
      .ok (if i.pos.getD eIdx 0 ≤ target then
             some ((e.sqrt ((i.speed.getD tIdx 0 / e.motor.w0) * (i.speed.getD tIdx 0 / e.motor.w0)
                      + (ilim / imax) * (ilim / imax)
                      + 2 * (i.speed.getD tIdx 0 / e.motor.w0) * ((ilim - 2 * i0) / imax))).map
                    fun r => 1 / 2 * (i.speed.getD tIdx 0 / e.motor.w0 + ilim / imax + r))
           else none) := by
  simp only [Rule.apply, hc, cmpSI_exact_le, decide_eq_true_eq]
  split <;> rfl

/-- the discriminant is `(s+e)² − 4 n s` -/
theorem disc_eq {α : Type} [Field α] (s e n : α) (ilim i0 imax : α) (himax : imax ≠ 0) (he : e = ilim / imax) (hn : n = i0 / imax) :
    s * s + e * e + 2 * s * ((ilim - 2 * i0) / imax) = (s + e) ^ 2 - 4 * n * s := by
  subst he hn; ring

variable {α : Type} [Field α] [LinearOrder α] [IsStrictOrderedRing α]

/-- the proposed duty cycle is a root of the quadratic the current law reduces to -/
theorem limit_root (D s e n r : α) (hr : r * r = (s + e) ^ 2 - 4 * n * s) (hD : D = (s + e + r) / 2) :
    D * D - (s + e) * D + n * s = 0 := by
  subst hD; linear_combination (1 / 4 : α) * hr

/-- … and it lies strictly above the dead-zone boundary `n = i₀/i_max` when `e = i_lim/i_max > n > 0` -/
theorem limit_outside_deadzone (D s e n r : α) (hr0 : 0 ≤ r) (hr : r * r = (s + e) ^ 2 - 4 * n * s)
    (hD : D = (s + e + r) / 2) (hn : 0 < n) (hen : n < e) : n < D := by
  -- the other root is `s + e - D = D - r ≤ D`, and the quadratic is negative at `n`
  have hprod : (n - D) * (n - (s + e - D)) = n * (n - e) := by
    linear_combination -limit_root D s e n r hr hD
  have hneg : n * (n - e) < 0 := mul_neg_of_pos_of_neg hn (sub_neg.2 hen)
  by_contra hcon
  have h1 : 0 ≤ n - D := sub_nonneg.2 (not_lt.1 hcon)
  exact hneg.not_ge (hprod ▸ mul_nonneg h1 (by linarith))

/-- the current law, normalised by `i_max`, evaluated at the root gives `e = i_lim / i_max` -/
theorem limit_current_normalised (D s e n r : α) (hD0 : D ≠ 0) (hr : r * r = (s + e) ^ 2 - 4 * n * s)
    (hD : D = (s + e + r) / 2) : (D - n) * (1 - s / D) + n = e := by
  field_simp
  linear_combination limit_root D s e n r hr hD

/-- C15 cross-module guarantee: at the duty cycle proposed by StartLimitCurrent the motor's own
    current law, evaluated on the motor's own torque at the present speed, yields exactly the
    limit current -/
theorem limit_current_exact {m : MotorP} {i0 imax : Q} (g : m.Good i0 imax) (w ilim r D : Q)
    (hi0 : 0 < i0) (hlim : i0 < ilim) (hr0 : 0 ≤ r)
    (hr : r * r = (w / m.w0 + ilim / imax) ^ 2 - 4 * (i0 / imax) * (w / m.w0))
    (hD : D = (w / m.w0 + ilim / imax + r) / 2) :
    current m D (torque m w D) = some ilim := by
  have hi : imax ≠ 0 := (C08.imax_pos g).ne'
  have hn : 0 < i0 / imax := div_pos hi0 (C08.imax_pos g)
  have hout := limit_outside_deadzone D (w / m.w0) (ilim / imax) (i0 / imax) r hr0 hr hD hn
    (div_lt_div_of_pos_right hlim (C08.imax_pos g))
  have key := limit_current_normalised D (w / m.w0) (ilim / imax) (i0 / imax) r (hn.trans hout).ne' hr hD
  rw [C08.current_pos_closed g w D hout]
  congr 1
  -- `key` is this equation divided by `i_max`
  calc (D * imax - i0) * (1 - w / (D * m.w0)) + i0
      = ((D - i0 / imax) * (1 - w / m.w0 / D) + i0 / imax) * imax := by
        rw [add_mul, mul_right_comm, sub_mul D, div_mul_cancel₀ _ hi, div_mul_eq_div_div_swap]
    _ = ilim := by rw [key, div_mul_cancel₀ _ hi]

/-! ### the window edges belong to the windows ("once θ ≥ θ_s", "while θ ≤ target", "start ≤ t ≤ start + duration") -/

/-- exactly at the braking start ReachAngularPosition is in force and proposes 1 -/
theorem reach_at_start (e : CtlEnv) (i : CtlIn) (idx : Nat) (target braking se : Q)
    (hse : staticError e i.load0 braking = .ok se) (hb : braking ≠ 0)
    (hx : i.pos.getD idx 0 = target - braking + se) :
    (Rule.reach exactCtx idx target braking).apply e i = .ok (some (some 1)) := by
  rw [reach_rule e i idx target braking se hse hb, if_pos (le_of_eq hx.symm), hx]
  simp

/-- strictly before it the rule is not applicable -/
theorem reach_before_start (e : CtlEnv) (i : CtlIn) (idx : Nat) (target braking se : Q)
    (hse : staticError e i.load0 braking = .ok se) (hb : braking ≠ 0)
    (hx : i.pos.getD idx 0 < target - braking + se) :
    (Rule.reach exactCtx idx target braking).apply e i = .ok none := by
  rw [reach_rule e i idx target braking se hse hb, if_neg (not_le.mpr hx)]

/-- exactly at the target the soft start is still in force and proposes 1; beyond it, it is not applicable -/
theorem ramp_at_target_rule (e : CtlEnv) (i : CtlIn) (idx : Nat) (target mult : Q) (pmin : Option Q)
    (hpm : mult * pwmMinFn e i.firstLoad0 ≠ 0) (ht : target ≠ 0) (hx : i.pos.getD idx 0 = target) :
    (Rule.startProp exactCtx idx target mult pmin).apply e i = .ok (some (some 1)) := by
  rw [ramp_rule e i idx target mult pmin hpm ht, if_pos (le_of_eq hx), hx, ramp_at_target _ _ ht]

theorem ramp_beyond_target (e : CtlEnv) (i : CtlIn) (idx : Nat) (target mult : Q) (pmin : Option Q)
    (hpm : mult * pwmMinFn e i.firstLoad0 ≠ 0) (ht : target ≠ 0) (hx : target < i.pos.getD idx 0) :
    (Rule.startProp exactCtx idx target mult pmin).apply e i = .ok none := by
  rw [ramp_rule e i idx target mult pmin hpm ht, if_neg (not_le.mpr hx)]

/-- exactly at the target StartLimitCurrent is still in force (it proposes something); beyond it, it is not applicable -/
theorem limit_at_target (e : CtlEnv) (i : CtlIn) (eIdx tIdx : Nat) (target ilim i0 imax : Q)
    (hc : e.motor.cur = some (i0, imax)) (hx : i.pos.getD eIdx 0 = target) :
    ∃ p, (Rule.startLimit exactCtx eIdx tIdx target ilim).apply e i = .ok (some p) := by
  rw [limit_rule e i eIdx tIdx target ilim i0 imax hc, if_pos (le_of_eq hx)]
  exact ⟨_, rfl⟩

theorem limit_beyond_target (e : CtlEnv) (i : CtlIn) (eIdx tIdx : Nat) (target ilim i0 imax : Q)
    (hc : e.motor.cur = some (i0, imax)) (hx : target < i.pos.getD eIdx 0) :
    (Rule.startLimit exactCtx eIdx tIdx target ilim).apply e i = .ok none := by
  rw [limit_rule e i eIdx tIdx target ilim i0 imax hc, if_neg (not_le.mpr hx)]

/-- both edges of a ConstantPWM window belong to it -/
theorem constant_at_edges (e : CtlEnv) (i : CtlIn) (start dur value : Q) (hd : 0 ≤ dur)
    (ht : i.time = start ∨ i.time = start + dur) :
    (Rule.constant exactCtx exactCtx start dur value).apply e i = .ok (some (some value)) := by
  rw [constant_window, if_pos]
  rcases ht with h | h <;> rw [h]
  · exact ⟨le_rfl, by rwa [sub_self]⟩
  · exact ⟨le_add_of_nonneg_right hd, by rw [add_sub_cancel_left]⟩


/-! non-vacuity of the edge theorems: target 10, braking angle 4, no load: the braking starts exactly at 6 -/
def exEnv : CtlEnv := { motor := C08.exM, eff := 1, sqrt := fun _ => none }
def exIn (p : Q) : CtlIn := { time := 0, pos := [p], speed := [0], load0 := 0, firstLoad0 := 0 }
example : (Rule.reach exactCtx 0 10 4).apply exEnv (exIn 6) = .ok (some (some 1)) := by decide +kernel
example : (Rule.reach exactCtx 0 10 4).apply exEnv (exIn (6 - 1/1000000)) = .ok none := by decide +kernel

/-! ### non-vacuity: i₀ = 0.1, i_max = 2, i_lim = 1, ω = 0 (standstill): D = e = 1/2, r = 1/2 -/
example : current C08.exM (1/2) (torque C08.exM 0 (1/2)) = some 1 :=
  limit_current_exact C08.exM_good 0 1 (1/2) (1/2) (by norm_num) (by norm_num) (by norm_num)
    (by norm_num [C08.exM]) (by norm_num [C08.exM])

end Gearpy.C15
