import Gearpy.Model.Relations
import Gearpy.Proofs.Units
/-!
# C20 — a powertrain is exactly the drive chain reachable from its motor

`assemble h m fuel` mirrors `Powertrain.__init__`: walk `drives` from the motor, reject duplicate
names, scan for a self-locking worm gear.  (`fuel` bounds the walk; on a cyclic `drives` graph the
Python loop does not terminate — outside the property's quantifier, "sequences producing chains".)
* `chain_head`, `chain_links`: the element list starts at the motor and each next element is the previous one's
  `drives`: the elements reachable by following `drives`, in that order;
* `chain_suffix`: every suffix of the walk is the walk from its first element (`chain_suffix_fuel`: on the fuel
  left at that point), so the order is determined by `drives` alone; an assembled chain has no two elements of one
  name (`assemble_elements`);
* `chain_ignores_backlinks`: a step of the walk reads nothing but the `drives` link (`chainFrom_succ`);
* `assemble_ok`: what a successful construction has checked and what it returns; `assemble_errors`: the motor
  drives nothing ⇒ `ValueError`; two elements share a name ⇒ `NameError`;
* `selfLocking_iff`: the flag is true exactly when the chain contains a worm gear whose mating
  flagged it self-locking;
* the result is a value (`PT`): later declarations on the heap cannot alter it — in Python the
  tuple and the flag are private and exposed through read-only properties (the harness checks the
  `AttributeError`).
-/

namespace Gearpy.C20
open Gearpy

/-- consecutive elements of the list are linked by `drives` -/
def Linked (h : Heap) : List Nat → Prop
  | i :: j :: rest => (∃ e, h[i]? = some e ∧ e.drives = some j) ∧ Linked h (j :: rest)
  | _ => True

theorem chain_head (h : Heap) (fuel i : Nat) (e : Elem) (he : h[i]? = some e) :
    (chainFrom h (fuel + 1) i).head? = some i := by
  simp only [chainFrom, he]; cases e.drives <;> rfl

theorem chain_nil_or_cons (h : Heap) (fuel i : Nat) :
    chainFrom h fuel i = [] ∨ ∃ rest, chainFrom h fuel i = i :: rest := by
  fun_cases chainFrom h fuel i <;> simp

theorem chain_links (h : Heap) (fuel i : Nat) : Linked h (chainFrom h fuel i) := by
  fun_induction chainFrom h fuel i with
  | case1 | case2 | case3 => trivial
  | case4 fuel i e he j hd ih =>
    rcases chain_nil_or_cons h fuel j with hc | ⟨rest, hc⟩ <;> rw [hc] at ih ⊢
    · trivial
    · exact ⟨⟨e, he, hd⟩, ih⟩

/-- the walk ended within the fuel: its last element drives nothing -/
def Ended (h : Heap) (l : List Nat) : Prop := ∃ i e, l.getLast? = some i ∧ h[i]? = some e ∧ e.drives = none

/-- `chain_suffix` with the fuel named: what was left when the walk stood on `j` -/
theorem chain_suffix_fuel {h : Heap} {fuel i : Nat} {pre : List Nat} {j : Nat} {suf : List Nat}
    (hc : chainFrom h fuel i = pre ++ j :: suf) : chainFrom h (fuel - pre.length) j = j :: suf := by
  induction pre generalizing fuel i with
  | nil =>
    obtain hn | ⟨rest, hr⟩ := chain_nil_or_cons h fuel i
    · rw [hn] at hc; cases hc
    · cases List.head_eq_of_cons_eq (hr.symm.trans hc); exact hc
  | cons a as ih =>
    revert hc
    fun_cases chainFrom h fuel i <;> intro hc
    case case4 n e k hd he => rw [List.length_cons, Nat.succ_sub_succ]; exact ih (List.cons.inj hc).2
    all_goals simp at hc  -- a walk that stops at once has no second element

theorem chain_suffix (h : Heap) (fuel i : Nat) (pre : List Nat) (j : Nat) (suf : List Nat)
    (hc : chainFrom h fuel i = pre ++ j :: suf) : ∃ fuel', chainFrom h fuel' j = j :: suf :=
  ⟨_, chain_suffix_fuel hc⟩

/-- one step of the walk reads the heap only through the `drives` link of the element it stands on -/
theorem chainFrom_succ (h : Heap) (fuel i : Nat) :
    chainFrom h (fuel + 1) i = match (h[i]?).map Elem.drives with
      | none => []
      | some none => [i]
      | some (some j) => i :: chainFrom h fuel j := by
  simp only [chainFrom]
  rcases h[i]? with _ | e
  · rfl
  · cases he : e.drives <;> simp only [Option.map_some, he]

/-- the walk follows `drives` only: two heaps whose elements have the same `drives` links give the same
    chain, whatever their `driven_by` back-links (which declarations never clear) say -/
theorem chain_ignores_backlinks (h h' : Heap) (hd : ∀ i : Nat, (h[i]?).map Elem.drives = (h'[i]?).map Elem.drives)
    (fuel i : Nat) : chainFrom h fuel i = chainFrom h' fuel i := by
  induction fuel generalizing i with
  | zero => rfl
  | succ n ih => simp only [chainFrom_succ, hd i, ih]

/-- what a successful `Powertrain.__init__` has checked and what it returns -/
theorem assemble_ok {h : Heap} {m fuel : Nat} {pt : PT} (ha : assemble h m fuel = .ok pt) :
    ∃ em, h[m]? = some em ∧ em.kind = .motor ∧ em.drives ≠ none ∧ hasDupNames h (chainFrom h fuel m) = false ∧
      pt.elements = chainFrom h fuel m ∧
      (pt.selfLocking = true ↔
        ∃ i ∈ chainFrom h fuel m, ∃ e, h[i]? = some e ∧ e.kind = .wormGear ∧ e.selfLocking = some true) := by
  unfold assemble at ha
  split at ha
  · cases ha
  next em hm =>
    simp only [ite_error_eq_ok, bne_iff_ne, ne_eq, not_not, Option.isNone_iff_eq_none, Bool.not_eq_true,
      Except.ok.injEq] at ha
    obtain ⟨hk, hd, hdup, rfl⟩ := ha
    refine ⟨em, hm, hk, hd, hdup, rfl, ?_⟩
    simp only [List.any_eq_true]
    refine exists_congr fun i => and_congr_right fun _ => ?_
    cases h[i]? <;> simp

theorem selfLocking_iff (h : Heap) (m fuel : Nat) (pt : PT) (ha : assemble h m fuel = .ok pt) :
    pt.selfLocking = true ↔
      ∃ i ∈ pt.elements, ∃ e, h[i]? = some e ∧ e.kind = .wormGear ∧ e.selfLocking = some true := by
  obtain ⟨-, -, -, -, -, he, hs⟩ := assemble_ok ha
  rw [he]; exact hs

theorem assemble_elements (h : Heap) (m fuel : Nat) (pt : PT) (ha : assemble h m fuel = .ok pt) :
    pt.elements = chainFrom h fuel m ∧ Linked h pt.elements ∧ hasDupNames h pt.elements = false := by
  obtain ⟨-, -, -, -, hdup, he, -⟩ := assemble_ok ha
  rw [he]; exact ⟨rfl, chain_links h fuel m, hdup⟩

theorem assemble_errors (h : Heap) (m fuel : Nat) (em : Elem) (hm : h[m]? = some em) (hk : em.kind = .motor) :
    (em.drives = none → assemble h m fuel = .error .valueE) ∧
    (em.drives ≠ none → hasDupNames h (chainFrom h fuel m) = true → assemble h m fuel = .error .nameE) := by
  unfold assemble
  exact ⟨fun hd => by simp [hm, hk, hd], fun hd hdup => by simp [hm, hk, hd, hdup]⟩

/-! ### non-vacuity: motor → spur → spur assembled from a heap with an unrelated fourth element -/
def exHeap : Heap :=
  [ { kind := .motor, name := 0, drives := some 1 }, { kind := .spur, name := 1, teeth := 20, drives := some 2, drivenBy := some 0 },
    { kind := .spur, name := 2, teeth := 40, drivenBy := some 1 }, { kind := .flywheel, name := 3 } ]
example : assemble exHeap 0 5 = .ok { elements := [0, 1, 2], selfLocking := false } := by decide +kernel

/-- the flag looks at the worm gear only — not at what the worm drives in the assembled chain (its wheel may
    have been cut off by a later fixed joint) -/
theorem selfLocking_of_flagged_worm (h : Heap) (m fuel : Nat) (pt : PT) (ha : assemble h m fuel = .ok pt)
    (i : Nat) (hi : i ∈ pt.elements) (e : Elem) (he : h[i]? = some e) (hk : e.kind = .wormGear)
    (hs : e.selfLocking = some true) : pt.selfLocking = true :=
  (selfLocking_iff h m fuel pt ha).mpr ⟨i, hi, e, he, hk, hs⟩

/-- non-vacuity: motor → flagged worm → flywheel; the wheel the worm was mated with (element 3) is no longer driven -/
def exHeapWorm : Heap :=
  [ { kind := .motor, name := 0, drives := some 1 },
    { kind := .wormGear, name := 1, drives := some 2, drivenBy := some 0, selfLocking := some true },
    { kind := .flywheel, name := 2, drivenBy := some 1 },
    { kind := .wormWheel, name := 3, teeth := 30, drivenBy := some 1 } ]
example : assemble exHeapWorm 0 5 = .ok { elements := [0, 1, 2], selfLocking := true } := by decide +kernel

end Gearpy.C20
