import Gearpy.Model.Snapshot
import Gearpy.Model.Record
import Gearpy.Proofs.Units
import Gearpy.Generated.Tables
import Gearpy.Proofs.Lerp
import Gearpy.Properties.C11
import Mathlib.Algebra.Order.Field.Basic
/-!
# C18 — snapshot and export report the recorded history faithfully

`interp` is `scipy.interpolate.interp1d(kind='linear')` on the recorded knots; `cell y f = y / f`
is the conversion of an SI sample to the requested unit (C05).
* `interp_at_knot_first`, `interp_at_second`, `interp_at_knot`: at a recorded instant the
  snapshot value is the recorded sample (on a strictly increasing axis, C11.axis_strictMono);
* `recorded_axis_strictInc`, `snapshot_at_recorded`: that hypothesis holds for every history the solver model can produce
  (any schedule of runs with positive time steps, resets, attribute changes: `C11.schedule_axis_increasing`), so a snapshot
  at any recorded instant of any such history returns the recorded sample of every column — no hypothesis left;
* `interp_between`, `interp_between_at`: between *any* two neighbouring instants of a strictly increasing axis —
  equally spaced or not — it is their linear interpolation, and it lies between the two samples (`interp_within`);
* `interp_outside_left`, `interp_outside_right`: outside the simulated interval there is no value (the code raises ValueError);
* `cell_linear`: converting commutes with interpolation — interpolating converted samples (what the
  code does) equals converting the interpolated SI value;
* selection: `columns_subset` (no column beyond the requested variables), `columns_complete`, the order is
  `VARIABLES_SORT_ORDER`, regenerated from the source (`sortOrder_matches`, `all_sorted`),
  `reports_iff` (an element reports a variable exactly when it is requested and the element
  records it — each independently of the others, repair D7), `no_unrequested_cell`;
* export: one row per recorded instant and every recorded variable present (C17.lengths_inv),
  each cell `cell sample f` (`export_cell`); a column whose samples carry different units (`exportColumn`):
  `exportColumn_length`, `exportColumn_cell` (each cell is its own sample's SI magnitude over the requested unit's
  factor), `exportColumn_unit_invariant` (the units the samples are stored in do not matter),
  `exportColumn_append` (a continuation in another unit appends its own converted samples).
-/

namespace Gearpy.C18
open Gearpy

theorem interp_cons_cons (t0 t1 y0 y1 t : Q) (ts ys : List Q) :
    interp (t0 :: t1 :: ts) (y0 :: y1 :: ys) t =
      if t < t0 then none
      else if t ≤ t1 then
        (if t = t0 then some y0 else if t = t1 then some y1
         else some (y0 + (y1 - y0) * (t - t0) / (t1 - t0)))
      else interp (t1 :: ts) (y1 :: ys) t := by
  rw [interp]

theorem interp_single (t0 y0 t : Q) : interp [t0] [y0] t = if t = t0 then some y0 else none := by
  rw [interp]

theorem interp_at_knot_first (t0 t1 y0 y1 : Q) (ts ys : List Q) (h : t0 ≤ t1) :
    interp (t0 :: t1 :: ts) (y0 :: y1 :: ys) t0 = some y0 := by
  rw [interp_cons_cons, if_neg (lt_irrefl t0), if_pos h, if_pos rfl]

theorem interp_at_second (t0 t1 y0 y1 : Q) (ts ys : List Q) (h : t0 < t1) :
    interp (t0 :: t1 :: ts) (y0 :: y1 :: ys) t1 = some y1 := by
  rw [interp_cons_cons, if_neg (not_lt.2 h.le), if_pos le_rfl, if_neg h.ne', if_pos rfl]

theorem interp_between (t0 t1 y0 y1 t : Q) (ts ys : List Q) (h0 : t0 < t) (h1 : t < t1) :
    interp (t0 :: t1 :: ts) (y0 :: y1 :: ys) t = some (y0 + (y1 - y0) * (t - t0) / (t1 - t0)) := by
  rw [interp_cons_cons, if_neg (not_lt.2 h0.le), if_pos h1.le, if_neg h0.ne', if_neg h1.ne]

theorem interp_within (t0 t1 y0 y1 t : Q) (h0 : t0 < t) (h1 : t < t1) (hy : y0 ≤ y1) :
    y0 ≤ y0 + (y1 - y0) * (t - t0) / (t1 - t0) ∧ y0 + (y1 - y0) * (t - t0) / (t1 - t0) ≤ y1 := by
  have := lerp_mem_uIcc y0 y1 h0 h1
  rwa [Set.uIcc_of_le hy] at this

theorem interp_outside_left (t0 t1 y0 y1 t : Q) (ts ys : List Q) (h : t < t0) :
    interp (t0 :: t1 :: ts) (y0 :: y1 :: ys) t = none := by
  rw [interp_cons_cons, if_pos h]

/-- beyond the second knot the first segment plays no part -/
theorem interp_skip (t0 t1 y0 y1 t : Q) (ts ys : List Q) (h0 : t0 ≤ t) (h1 : t1 < t) :
    interp (t0 :: t1 :: ts) (y0 :: y1 :: ys) t = interp (t1 :: ts) (y1 :: ys) t := by
  rw [interp_cons_cons, if_neg (not_lt.2 h0), if_neg (not_le.2 h1)]

/-- strictly increasing abscissae -/
def StrictInc : List Q → Prop
  | a :: b :: rest => a < b ∧ StrictInc (b :: rest)
  | _ => True

theorem strictInc_iff_pairwise : ∀ l : List Q, StrictInc l ↔ l.Pairwise (· < ·)
  | [] => by simp [StrictInc]
  | [_] => by simp [StrictInc]
  | a :: b :: l => by
    rw [StrictInc, strictInc_iff_pairwise (b :: l), ← List.isChain_iff_pairwise, ← List.isChain_iff_pairwise,
      List.isChain_cons_cons]

theorem StrictInc.getElem_lt {ts : List Q} (h : StrictInc ts) {i j : Nat} (hij : i < j) (hj : j < ts.length) :
    ts[i]'(hij.trans hj) < ts[j] :=
  List.pairwise_iff_getElem.1 ((strictInc_iff_pairwise ts).1 h) i j _ hj hij

theorem drop_eq_cons_cons {l : List Q} {k : Nat} (h : k + 1 < l.length) :
    l.drop k = l[k]'(Nat.lt_of_succ_lt h) :: l[k + 1] :: l.drop (k + 2) := by
  rw [List.drop_eq_getElem_cons (Nat.lt_of_succ_lt h), List.drop_eq_getElem_cons h]

/-- the segments before the one that holds `t` play no part -/
theorem interp_locate (ts ys : List Q) (hl : ts.length = ys.length) (hinc : StrictInc ts) (i : Nat)
    (hi : i + 1 < ts.length) (t : Q) (h : ts[i]'(Nat.lt_of_succ_lt hi) < t) :
    interp ts ys t = interp (ts[i]'(Nat.lt_of_succ_lt hi) :: ts[i + 1] :: ts.drop (i + 2))
      (ys[i]'(hl ▸ Nat.lt_of_succ_lt hi) :: ys[i + 1]'(hl ▸ hi) :: ys.drop (i + 2)) t := by
  have hi' : i + 1 < ys.length := hl ▸ hi
  induction i with
  | zero => rw [← drop_eq_cons_cons hi, ← drop_eq_cons_cons hi']; rfl
  | succ k ih =>
    have hk := hinc.getElem_lt (Nat.lt_succ_self k) (Nat.lt_of_succ_lt hi)
    rw [ih (Nat.lt_of_succ_lt hi) (hk.trans h) (Nat.lt_of_succ_lt hi'), interp_skip _ _ _ _ _ _ _ (hk.trans h).le h,
      List.drop_eq_getElem_cons hi, List.drop_eq_getElem_cons hi']

theorem interp_head (t0 y0 : Q) (ts ys : List Q) (hl : ts.length = ys.length) (hinc : StrictInc (t0 :: ts)) :
    interp (t0 :: ts) (y0 :: ys) t0 = some y0 := by
  match ts, ys, hl with
  | [], [], _ => rw [interp_single, if_pos rfl]
  | t1 :: ts, y1 :: ys, _ => exact interp_at_knot_first t0 t1 y0 y1 ts ys hinc.1.le

theorem interp_at_knot (ts ys : List Q) (hl : ts.length = ys.length) (hinc : StrictInc ts) (i : Nat)
    (hi : i < ts.length) : interp ts ys (ts[i]) = some (ys[i]'(by omega)) := by
  cases i with
  | zero =>
    match ts, ys, hl with
    | t0 :: ts, y0 :: ys, hl => exact interp_head t0 y0 ts ys (Nat.succ.inj hl) hinc
  | succ k =>
    -- a later instant is the second knot of the segment before it
    have hk := hinc.getElem_lt (Nat.lt_succ_self k) hi
    rw [interp_locate ts ys hl hinc k hi _ hk, interp_at_second _ _ _ _ _ _ hk]

/-- between *any* two neighbouring recorded instants `ts[i] < t < ts[i+1]` of a strictly increasing axis —
    equally spaced or not (continuations with another time step) — the snapshot value is the linear
    interpolation of the two neighbouring samples -/
theorem interp_between_at (ts ys : List Q) (hl : ts.length = ys.length) (hinc : StrictInc ts) (i : Nat)
    (hi : i + 1 < ts.length) (t : Q) (h0 : ts[i] < t) (h1 : t < ts[i + 1]) :
    interp ts ys t = some (ys[i]'(by omega) + (ys[i + 1]'(by omega) - ys[i]'(by omega)) * (t - ts[i]) / (ts[i + 1] - ts[i])) := by
  rw [interp_locate ts ys hl hinc i hi t h0, interp_between _ _ _ _ _ _ _ h0 h1]

/-- no snapping: strictly between two recorded instants whose samples differ, the snapshot value is
    neither of the two samples (however close to one of the instants the target is) -/
theorem interp_not_sample (ts ys : List Q) (hl : ts.length = ys.length) (hinc : StrictInc ts) (i : Nat)
    (hi : i + 1 < ts.length) (t : Q) (h0 : ts[i] < t) (h1 : t < ts[i + 1])
    (hy : ys[i]'(by omega) ≠ ys[i + 1]'(by omega)) :
    interp ts ys t ≠ some (ys[i]'(by omega)) ∧ interp ts ys t ≠ some (ys[i + 1]'(by omega)) := by
  rw [interp_between_at ts ys hl hinc i hi t h0 h1]
  obtain ⟨ha, hb⟩ := lerp_ne h0 h1 hy
  exact ⟨fun h => ha (Option.some.inj h), fun h => hb (Option.some.inj h)⟩

/-- … and it lies at the same fraction of the way between the two samples as the target between the two instants:
    a target `δ` after an instant moves the value by `δ` times the slope -/
theorem interp_offset (ts ys : List Q) (hl : ts.length = ys.length) (hinc : StrictInc ts) (i : Nat)
    (hi : i + 1 < ts.length) (δ : Q) (h0 : 0 < δ) (h1 : ts[i] + δ < ts[i + 1]) :
    interp ts ys (ts[i] + δ) =
      some (ys[i]'(by omega) + δ * ((ys[i + 1]'(by omega) - ys[i]'(by omega)) / (ts[i + 1] - ts[i]))) := by
  rw [interp_between_at ts ys hl hinc i hi (ts[i] + δ) (lt_add_of_pos_right _ h0) h1, lerp_offset]

/-- beyond the last knot there is no value: neither the order of the knots nor the samples matter -/
theorem interp_beyond (ts ys : List Q) (hl : ts.length = ys.length) (t : Q) (h : ∀ x ∈ ts, x < t) :
    interp ts ys t = none := by
  induction ts generalizing ys with
  | nil => cases ys <;> rfl
  | cons t0 ts ih =>
    match ts, ys, hl with
    | [], [y0], _ => rw [interp_single, if_neg (h t0 (List.mem_singleton_self _)).ne']
    | t1 :: ts, y0 :: y1 :: ys, hl =>
      rw [interp_skip _ _ _ _ _ _ _ (h t0 (by simp)).le (h t1 (by simp))]
      exact ih _ (Nat.succ.inj hl) fun x hx => h x (List.mem_cons_of_mem _ hx)

theorem interp_outside_right (ts ys : List Q) (hl : ts.length = ys.length) (hinc : StrictInc ts) (t : Q)
    (h : ∀ x ∈ ts, x < t) : interp ts ys t = none :=
  interp_beyond ts ys hl t h

/-- non-vacuity on an unequally spaced axis: [0, 1/4, 1] -/
example : interp [0, 1/4, 1] [3, 5, 4] (1/2) = some (5 + (4 - 5) * (1/2 - 1/4) / (1 - 1/4)) :=
  interp_between_at [0, 1/4, 1] [3, 5, 4] rfl (by simp [StrictInc]; norm_num) 1 (by simp) (1/2) (by simp; norm_num) (by simp; norm_num)

/-- converting to the requested unit commutes with linear interpolation -/
theorem cell_linear (y0 y1 t t0 t1 f : Q) (hf : f ≠ 0) :
    cell y0 f + (cell y1 f - cell y0 f) * (t - t0) / (t1 - t0) = cell (y0 + (y1 - y0) * (t - t0) / (t1 - t0)) f := by
  unfold cell; ring

/-! ### selection -/

theorem columns_subset (allKeys : List Var) (req : List Var) (v : Var)
    (h : v ∈ snapshotColumns allKeys (some req)) : v ∈ req := by
  unfold snapshotColumns at h
  simp only [List.mem_filter] at h
  simpa using h.2

theorem columns_complete (allKeys : List Var) (req : List Var) (v : Var) (h : v ∈ req) :
    v ∈ snapshotColumns allKeys (some req) := by
  unfold snapshotColumns
  simp only [List.mem_filter]
  exact ⟨by cases v <;> simp [Var.all], by simpa using h⟩

theorem reports_iff (e : ElemInfo) (req : List Var) (v : Var) :
    snapshotReports e (some req) v = true ↔ v ∈ req ∧ recordsNow e v = true := by
  simp [snapshotReports]

theorem no_unrequested_cell (e : ElemInfo) (req : List Var) (v : Var) (h : v ∉ req) :
    snapshotReports e (some req) v = false := by
  simp [snapshotReports, h]

theorem sortOrder_matches : Gen.sortOrder = Var.all.map Var.name := by decide +kernel

theorem all_sorted : (Var.all.map Var.rank) = [0, 1, 2, 3, 4, 5, 6, 7, 8, 9, 10] := by decide

/-! ### export of a series whose samples carry different units -/

theorem exportColumn_length (T : Tbl) (u : Nat) (qs : List Qty) : (exportColumn T u qs).length = qs.length := by
  simp [exportColumn]

theorem exportColumn_cell {T : Tbl} (g : T.Good) (u : Nat) (qs : List Qty) (j : Nat) (hj : j < qs.length) :
    (exportColumn T u qs)[j]'(by simpa [exportColumn] using hj) = cell (siMag T qs[j]) (T.f qs[j].kind u) := by
  simp only [exportColumn, List.getElem_map, cell]
  exact conv_eq_div g _ _

/-- the exported column depends on the physical values only: two histories of the same kinds with the same SI
    magnitudes sample by sample — whatever units the samples are stored in — export identically -/
theorem exportColumn_unit_invariant {T : Tbl} (g : T.Good) (u : Nat) (qs rs : List Qty)
    (h : List.Forall₂ (fun a b => a.kind = b.kind ∧ siMag T a = siMag T b) qs rs) :
    exportColumn T u qs = exportColumn T u rs := by
  induction h with
  | nil => rfl
  | cons hab _ ih =>
    simp only [exportColumn, List.map_cons, List.cons.injEq] at ih ⊢
    refine ⟨?_, ih⟩
    rw [conv_eq_div g, conv_eq_div g, hab.1, hab.2]

/-- non-vacuity on the table generated from the source: 0.25 Nm followed by 0.125 kNm, exported in Nm -/
example : exportColumn Gen.tbl 0 [⟨.torque, 1/4, 0⟩, ⟨.torque, 1/8, 5⟩] = [1/4, 125] := by decide +kernel

/-- a continuation appends its own converted samples and leaves the earlier cells alone -/
theorem exportColumn_append (T : Tbl) (u : Nat) (qs rs : List Qty) :
    exportColumn T u (qs ++ rs) = exportColumn T u qs ++ exportColumn T u rs := by
  simp [exportColumn]

theorem export_cell (y f : Q) (hf : 0 < f) : cell y f * f = y := by
  unfold cell; field_simp

/-! ### non-vacuity -/
example : interp [0, 1/2, 1] [3, 5, 4] (1/4) = some 4 := by decide +kernel
example : interp [0, 1/2, 1] [3, 5, 4] (1/2) = some 5 := by decide +kernel
example : interp [0, 1/2, 1] [3, 5, 4] 2 = none := by decide +kernel

/-! ### the axis hypothesis discharged for every history the solver model can produce -/
/-- **The hypothesis of the interpolation theorems holds for every history the solver can produce**: along any schedule
    of runs with positive time steps, resets and attribute changes, the recorded time axis is strictly increasing
    (`C11.schedule_axis_increasing`) -/
theorem recorded_axis_strictInc (c : Cfg) (ops : List Op) (hops : C11.PosSteps ops) (p v : Q) (s' : St)
    (h : exec c ops (St.init p v) = .ok s') : StrictInc (s'.recs.map (·.time)) :=
  (strictInc_iff_pairwise _).2 (C11.schedule_axis_increasing c ops hops (St.init p v) s' (by simp [St.init]) h)

/-- a snapshot taken at any recorded instant of any such history returns, for every column read off the records, the
    sample recorded at that instant — no hypothesis on the axis left -/
theorem snapshot_at_recorded (c : Cfg) (ops : List Op) (hops : C11.PosSteps ops) (p v : Q) (s' : St)
    (h : exec c ops (St.init p v) = .ok s') (col : Rec → Q) (j : Nat) (hj : j < s'.recs.length) :
    interp (s'.recs.map (·.time)) (s'.recs.map col) ((s'.recs[j]).time) = some (col (s'.recs[j])) := by
  have := interp_at_knot (s'.recs.map (·.time)) (s'.recs.map col) (by simp)
    (recorded_axis_strictInc c ops hops p v s' h) j (by simpa using hj)
  simpa using this

end Gearpy.C18
