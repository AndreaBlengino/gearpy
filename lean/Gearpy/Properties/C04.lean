import Gearpy.Proofs.History
import Gearpy.Properties.C03
import Mathlib.Analysis.SpecialFunctions.ExpDeriv
import Mathlib.Analysis.Complex.Exponential
import Mathlib.Algebra.Order.Ring.Abs
import Mathlib.Tactic.FieldSimp
import Mathlib.Tactic.Positivity
/-!
# C04 — trajectories converge to the closed-form solution as dt shrinks

Reduction (ℚ, on the model).  For a chain that is not held, a load `L` and a motor
characteristic that is affine in the motor speed, `T_m(ω_m) = a − b·ω_m` (every DC-motor law of
C08 at constant duty cycle is: `a = T_max(D)`, `b = T_max(D)/(D ω₀)`; in the dead zone `a = b = 0`):
* `coupled_head`, `drive_last`: the motor speed is `P·ω` and the last element's driving torque
  `G·T_m`, with `P = Π rᵢ`, `G = Π ηᵢ rᵢ`;
* `record_acc_affine`: the acceleration recorded at an instant is `(A − B ω)/J` with
  `A = a G − L`, `B = b P G`, `J` the equivalent inertia — the right-hand side of the linear ODE
  `J ω' = A − B ω`; it holds on every record of every history (`all_records_ok`);
* `affine_iter`: iterating the speed update `ω ↦ ω + dt (A − B ω)/J` gives
  `ω_m − ω_∞ = (1 − κ dt)^m (ω₀ − ω_∞)`, `κ = B/J`, `ω_∞ = A/B`.
Analysis (ℝ).  With `h = κ dt ∈ [0, 1]`:
* `euler_exp_err`: `|(1 − h)^m − e^{−m h}| ≤ m h²`;
* `speed_error_bound`: `|ω_m − ω(t_m)| ≤ |ω₀ − ω_∞| · (κ t_m) · (κ dt)` where
  `ω(t) = ω_∞ + (ω₀ − ω_∞) e^{−κ t}` is the closed-form solution and `t_m = m dt`:
  at every instant of a fixed horizon the error is bounded by a constant times `dt`.
* `pos_iter_closed`, `position_error_bound`: the position recursion of `_time_integration`
  (`θ_{k+1} = θ_k + ω_{k+1} dt`) in closed form, and `|θ_m − θ(t_m)| ≤ |ω₀ − ω_∞| · (κ t_m + 1) · dt`
  where `θ(t) = θ₀ + ω_∞ t + (ω₀ − ω_∞)(1 − e^{−κ t})/κ`;
* `exact_solves_ode`, `exactPos_deriv`, `exact_zero`, `exactPos_zero`: `ω(t)` is the solution of
  `ω' = κ(ω_∞ − ω)`, `ω(0) = ω₀`, and `θ(t)` is its antiderivative with `θ(0) = θ₀` — the closed forms
  the bounds refer to are the solution of the equation of motion, not just some curve.
End to end (model).  `run_follows_iter`: a fresh run of a chain that cannot self-lock, without
controller, affine motor law at the duty cycle in force, constant load, records on its last element
exactly `iter` / `posIter` at every instant (from `all_records_ok`, the step relation of C03 and the
constancy of the duty cycle); `C04_run` puts the three together.
Not proved: "the error roughly halves when dt is halved" is a statement about the leading error
term; it is **measured** by the harness and labelled as a test (DESIGN.md 10.2).
-/

namespace Gearpy.C04
open Gearpy

def prodR : List Q → Q := fun rs => rs.foldr (fun r p => r * p) 1
def gain : List Link → Q := fun ls => ls.foldr (fun l p => l.eff * l.ratio * p) 1

theorem lastD_cons_cons (a b : Q) (vs : List Q) : lastD (a :: b :: vs) = lastD (b :: vs) := by
  simp [lastD]

theorem coupled_head {rs vs : List Q} (h : Coupled rs vs) : vs.headD 0 = prodR rs * lastD vs := by
  induction rs generalizing vs with
  | nil => match vs, h with | [v], _ => simp [prodR, lastD]
  | cons r rs ih =>
    match vs, h with
    | a :: b :: vs', ⟨h1, h2⟩ =>
      have := ih h2
      simp only [List.headD_cons] at this ⊢
      rw [lastD_cons_cons, h1, show prodR (r :: rs) = r * prodR rs from rfl, mul_assoc, ← this]

theorem drive_last {ls : List Link} {ds : List Q} (h : DriveOK ls ds) : lastD ds = ds.headD 0 * gain ls := by
  induction ls generalizing ds with
  | nil => match ds, h with | [d], _ => simp [gain, lastD]
  | cons l ls ih =>
    match ds, h with
    | a :: b :: ds', ⟨h1, h2⟩ =>
      have := ih h2
      simp only [List.headD_cons] at this ⊢
      rw [lastD_cons_cons, this, h1, show gain (l :: ls) = l.eff * l.ratio * gain ls from rfl]; ring

theorem lastD_zipWith_sub : ∀ (ds xs : List Q), ds.length = xs.length → ds ≠ [] →
    lastD (List.zipWith (· - ·) ds xs) = lastD ds - lastD xs
  | [d], [x], _, _ => by simp [lastD]
  | a :: b :: ds, x :: y :: xs, hl, _ => by
    have := lastD_zipWith_sub (b :: ds) (y :: xs) (by simpa using hl) (by simp)
    simp only [List.zipWith_cons_cons] at this ⊢
    rw [lastD_cons_cons, lastD_cons_cons, lastD_cons_cons, this]
  | [], _, _, h => absurd rfl h
  | [_], [], hl, _ | [_], _ :: _ :: _, hl, _ | _ :: _ :: _, [], hl, _ | _ :: _ :: _, [_], hl, _ => by simp at hl

theorem record_acc_affine (c : Cfg) (r : Rec) (hok : RecOK c r) (hnl : r.locked = false) (a b L : Q)
    (hm : ∀ w, c.motorTorque w r.pwm = a - b * w)
    (hL : c.load (lastD r.pos) (lastD r.speed) r.time = L) :
    lastD r.acc = ((a * gain c.links - L) - (b * prodR (c.links.map (·.ratio)) * gain c.links) * lastD r.speed) / inertia c := by
  have hdl := (drive_get hok.drive).1
  have hd0 : r.dtorque.headD 0 = a - b * (prodR (c.links.map (·.ratio)) * lastD r.speed) := by
    rw [← coupled_head hok.speed, ← hm, List.headD_eq_head?_getD, hok.drive0]; rfl
  rw [hok.eom hnl, hok.net, lastD_zipWith_sub _ _ (hdl.trans (load_get hok.load).1.symm) (by intro h; simp [h] at hdl),
    drive_last hok.drive, hd0, lastD_of_getLast? hok.loadLast, hL]
  ring

/-- the discrete recursion `ω_{k+1} = ω_k + dt (A − B ω_k)/J` (`affine_iter`: its closed form) -/
def iter (A B J dt : Q) (w0 : Q) : Nat → Q
  | 0 => w0
  | k + 1 => iter A B J dt w0 k + dt * (A - B * iter A B J dt w0 k) / J

theorem affine_iter (A B J dt w0 : Q) (hB : B ≠ 0) (hJ : J ≠ 0) (m : Nat) :
    iter A B J dt w0 m - A / B = (1 - B / J * dt) ^ m * (w0 - A / B) := by
  induction m with
  | zero => simp [iter]
  | succ k ih =>
    simp only [iter, pow_succ]
    have : iter A B J dt w0 k = (1 - B / J * dt) ^ k * (w0 - A / B) + A / B := by linarith
    rw [this]; field_simp; ring

/-- dead zone / no speed dependence (`B = 0`): constant acceleration, the discrete speed is exact -/
theorem const_acc_iter (A J dt w0 : Q) (m : Nat) : iter A 0 J dt w0 m = w0 + (m : Q) * (dt * A / J) := by
  induction m with
  | zero => simp [iter]
  | succ k ih => simp only [iter]; rw [ih]; push_cast; ring

open Real in
theorem euler_exp_err (h : ℝ) (n : ℕ) (h0 : 0 ≤ h) (h1 : h ≤ 1) :
    |(1 - h)^n - Real.exp (-(n*h))| ≤ n * h^2 := by
  have e1 : Real.exp (-(n*h)) = (Real.exp (-h))^n := by
    rw [← Real.exp_nat_mul]; ring_nf
  rw [e1]
  have hb := abs_pow_sub_pow_le (a := 1 - h) (b := Real.exp (-h)) (n := n)
  have habs : |(-h)| ≤ 1 := by rw [abs_neg, abs_of_nonneg h0]; exact h1
  have hd := Real.abs_exp_sub_one_sub_id_le habs
  have hd' : |1 - h - Real.exp (-h)| ≤ h^2 := by
    have : 1 - h - Real.exp (-h) = -(Real.exp (-h) - 1 - (-h)) := by ring
    rw [this, abs_neg]; simpa using hd
  have hm : max |1 - h| |Real.exp (-h)| ≤ 1 := by
    apply max_le
    · rw [abs_le]; constructor <;> linarith
    · rw [abs_of_pos (Real.exp_pos _)]; exact Real.exp_le_one_iff.mpr (by linarith)
  have hp : max |1 - h| |Real.exp (-h)| ^ (n - 1) ≤ 1 :=
    pow_le_one₀ (le_max_of_le_left (abs_nonneg _)) hm
  calc |(1 - h)^n - (Real.exp (-h))^n|
      ≤ |1 - h - Real.exp (-h)| * n * max |1 - h| |Real.exp (-h)| ^ (n - 1) := hb
    _ ≤ h^2 * n * 1 := by gcongr
    _ = n * h^2 := by ring

/-- the closed-form solution of `J ω' = A − B ω`, `ω(0) = ω₀` -/
noncomputable def exact (winf w0 κ t : ℝ) : ℝ := winf + (w0 - winf) * Real.exp (-(κ * t))

/-- the speed bound over the reals, for the closed form `ω_∞ + ρ^m (ω₀ − ω_∞)` of the recursion -/
theorem speed_error_real (w0 winf κ dt : ℝ) (m : ℕ) (h0 : 0 ≤ κ * dt) (h1 : κ * dt ≤ 1) :
    |winf + (1 - κ * dt) ^ m * (w0 - winf) - exact winf w0 κ (m * dt)| ≤ |w0 - winf| * (κ * (m * dt) * (κ * dt)) := by
  have e : winf + (1 - κ * dt) ^ m * (w0 - winf) - exact winf w0 κ (m * dt)
      = (w0 - winf) * ((1 - κ * dt) ^ m - Real.exp (-(m * (κ * dt)))) := by
    unfold exact; rw [show κ * (m * dt) = m * (κ * dt) by ring]; ring
  rw [e, abs_mul, show κ * (m * dt) * (κ * dt) = m * (κ * dt) ^ 2 by ring]
  exact mul_le_mul_of_nonneg_left (euler_exp_err (κ * dt) m h0 h1) (abs_nonneg _)

/-- C04: the simulated speed stays within a bound proportional to `dt` of the closed-form solution
    at every instant: `|ω_m − ω(m dt)| ≤ |ω₀ − ω_∞| · (κ · m dt) · (κ dt)` -/
theorem speed_error_bound (A B J dt w0 : Q) (hB : B ≠ 0) (hJ : J ≠ 0) (m : ℕ)
    (h0 : 0 ≤ B / J * dt) (h1 : B / J * dt ≤ 1) :
    |((iter A B J dt w0 m : Q) : ℝ) - exact ((A / B : Q) : ℝ) (w0 : ℝ) ((B / J : Q) : ℝ) ((m : ℝ) * (dt : ℝ))|
      ≤ |((w0 - A / B : Q) : ℝ)| * ((((B / J : Q) : ℝ) * ((m : ℝ) * (dt : ℝ))) * (((B / J : Q) : ℝ) * (dt : ℝ))) := by
  rw [eq_add_of_sub_eq' (affine_iter A B J dt w0 hB hJ m)]
  push_cast
  exact speed_error_real w0 (A / B) (B / J) dt m (by exact_mod_cast h0) (by exact_mod_cast h1)

/-- the position recursion of `_time_integration`: `θ_{k+1} = θ_k + ω_{k+1}·dt` (the *new* speed) -/
def posIter (A B J dt w0 p0 : Q) : Nat → Q
  | 0 => p0
  | k + 1 => posIter A B J dt w0 p0 k + iter A B J dt w0 (k + 1) * dt

/-- the induction step of `pos_iter_closed`, with `P = ρ^k`, `kq = k`, `D = ω₀ − ω_∞` -/
theorem pos_step (p0 winf D κ dt P kq : Q) (hκ : κ ≠ 0) :
    p0 + winf * (kq * dt) + D * (1 - κ * dt) * (1 - P) / κ + (P * (1 - κ * dt) * D + winf) * dt =
      p0 + winf * ((kq + 1) * dt) + D * (1 - κ * dt) * (1 - P * (1 - κ * dt)) / κ := by
  field_simp
  ring

/-- discrete position in closed form: with `κ = B/J`, `ρ = 1 − κ dt`, `ω_∞ = A/B`,
    `θ_m = θ₀ + ω_∞ (m dt) + (ω₀ − ω_∞) ρ (1 − ρ^m)/κ` -/
theorem pos_iter_closed (A B J dt w0 p0 : Q) (hB : B ≠ 0) (hJ : J ≠ 0) (m : Nat) :
    posIter A B J dt w0 p0 m =
      p0 + A / B * ((m : Q) * dt) + (w0 - A / B) * (1 - B / J * dt) * (1 - (1 - B / J * dt) ^ m) / (B / J) := by
  induction m with
  | zero => simp [posIter]
  | succ k ih =>
    have hw : iter A B J dt w0 (k + 1) = (1 - B / J * dt) ^ (k + 1) * (w0 - A / B) + A / B := by
      have := affine_iter A B J dt w0 hB hJ (k + 1); linarith
    have hstep := pos_step p0 (A / B) (w0 - A / B) (B / J) dt ((1 - B / J * dt) ^ k) (k : Q) (div_ne_zero hB hJ)
    rw [posIter, ih, hw, pow_succ]
    push_cast
    linear_combination hstep

/-- dead zone / no speed dependence (`B = 0`): the discrete position exceeds the parabola
    `θ₀ + ω₀ t + (A/J) t²/2` by exactly `(A/J) · t · dt / 2` -/
theorem const_acc_pos (A J dt w0 p0 : Q) (m : Nat) :
    posIter A 0 J dt w0 p0 m =
      p0 + w0 * ((m : Q) * dt) + A / J * ((m : Q) * dt) ^ 2 / 2 + A / J * ((m : Q) * dt) * dt / 2 := by
  induction m with
  | zero => simp [posIter]
  | succ k ih =>
    rw [posIter, ih, const_acc_iter]
    push_cast
    ring

/-- closed-form position: the antiderivative of `exact` with value `p0` at `t = 0` -/
noncomputable def exactPos (winf w0 κ p0 t : ℝ) : ℝ :=
  p0 + winf * t + (w0 - winf) * (1 - Real.exp (-(κ * t))) / κ

theorem exactPos_zero (winf w0 κ p0 : ℝ) : exactPos winf w0 κ p0 0 = p0 := by simp [exactPos]

theorem exact_zero (winf w0 κ : ℝ) : exact winf w0 κ 0 = w0 := by simp [exact]

theorem hasDerivAt_decay (κ t : ℝ) :
    HasDerivAt (fun t : ℝ => Real.exp (-(κ * t))) (Real.exp (-(κ * t)) * -κ) t := by
  have h : HasDerivAt (fun t : ℝ => -(κ * t)) (-κ) t := by
    simpa only [neg_mul] using hasDerivAt_const_mul (x := t) (-κ)
  exact h.exp

/-- `exact` solves the linear equation of motion `ω' = κ (ω_∞ − ω)`, i.e. `J ω' = A − B ω` -/
theorem exact_solves_ode (winf w0 κ t : ℝ) :
    HasDerivAt (exact winf w0 κ) (κ * (winf - exact winf w0 κ t)) t := by
  rw [show κ * (winf - exact winf w0 κ t) = (w0 - winf) * (Real.exp (-(κ * t)) * -κ) by unfold exact; ring]
  exact ((hasDerivAt_decay κ t).const_mul (w0 - winf)).const_add winf

theorem exactPos_deriv (winf w0 κ p0 t : ℝ) (hκ : κ ≠ 0) :
    HasDerivAt (exactPos winf w0 κ p0) (exact winf w0 κ t) t := by
  have h2 : HasDerivAt (fun t : ℝ => (w0 - winf) * (1 - Real.exp (-(κ * t))) / κ)
      ((w0 - winf) * (0 - Real.exp (-(κ * t)) * -κ) / κ) t :=
    ((((hasDerivAt_const t (1:ℝ)).sub (hasDerivAt_decay κ t)).const_mul (w0 - winf)).div_const κ)
  have h3 : HasDerivAt (fun t : ℝ => p0 + winf * t) winf t := by
    simpa using ((hasDerivAt_id t).const_mul winf).const_add p0
  rw [show exact winf w0 κ t = winf + (w0 - winf) * (0 - Real.exp (-(κ * t)) * -κ) / κ by
    unfold exact; field_simp; ring]
  exact h3.add h2

/-- the position bound over the reals, for the closed form of the position recursion: with `h = κ dt`, `ρ = 1 − h`
    the error is `(ω₀ − ω_∞)/κ · ((e^{−mh} − ρ^m) − h (1 − ρ^m))` -/
theorem position_error_real (p0 w0 winf κ dt : ℝ) (m : ℕ) (hκ : 0 < κ) (h0 : 0 ≤ κ * dt) (h1 : κ * dt ≤ 1) :
    |p0 + winf * (m * dt) + (w0 - winf) * (1 - κ * dt) * (1 - (1 - κ * dt) ^ m) / κ - exactPos winf w0 κ p0 (m * dt)|
      ≤ |w0 - winf| * (κ * (m * dt) + 1) * dt := by
  have e : p0 + winf * (m * dt) + (w0 - winf) * (1 - κ * dt) * (1 - (1 - κ * dt) ^ m) / κ - exactPos winf w0 κ p0 (m * dt)
      = (w0 - winf) / κ * ((Real.exp (-(m * (κ * dt))) - (1 - κ * dt) ^ m) - κ * dt * (1 - (1 - κ * dt) ^ m)) := by
    unfold exactPos; rw [show κ * (m * dt) = m * (κ * dt) by ring]; ring
  have hρ0 : 0 ≤ (1 - κ * dt) ^ m := pow_nonneg (sub_nonneg.2 h1) m
  have hρ1 : (1 - κ * dt) ^ m ≤ 1 := pow_le_one₀ (sub_nonneg.2 h1) (sub_le_self 1 h0)
  have hb : |κ * dt * (1 - (1 - κ * dt) ^ m)| ≤ κ * dt := by
    rw [abs_of_nonneg (mul_nonneg h0 (sub_nonneg.2 hρ1))]
    exact mul_le_of_le_one_right h0 (sub_le_self 1 hρ0)
  have he := abs_sub_comm ((1 - κ * dt) ^ m) _ ▸ euler_exp_err (κ * dt) m h0 h1
  rw [e, abs_mul, abs_div, abs_of_pos hκ]
  calc |w0 - winf| / κ * |Real.exp (-(m * (κ * dt))) - (1 - κ * dt) ^ m - κ * dt * (1 - (1 - κ * dt) ^ m)|
      ≤ |w0 - winf| / κ * (m * (κ * dt) ^ 2 + κ * dt) :=
        mul_le_mul_of_nonneg_left ((abs_sub _ _).trans (add_le_add he hb)) (div_nonneg (abs_nonneg _) hκ.le)
    _ = |w0 - winf| * (κ * (m * dt) + 1) * dt := by field_simp

/-- C04 (position): `|θ_m − θ(m dt)| ≤ |ω₀ − ω_∞| · (κ · m dt + 1) · dt` — within a bound
    proportional to `dt` of the closed-form position at every instant of a fixed horizon -/
theorem position_error_bound (A B J dt w0 p0 : Q) (hB : B ≠ 0) (hJ : J ≠ 0) (m : ℕ)
    (hκ : 0 < B / J) (h0 : 0 ≤ B / J * dt) (h1 : B / J * dt ≤ 1) :
    |((posIter A B J dt w0 p0 m : Q) : ℝ)
        - exactPos ((A / B : Q) : ℝ) (w0 : ℝ) ((B / J : Q) : ℝ) (p0 : ℝ) ((m : ℝ) * (dt : ℝ))|
      ≤ |((w0 - A / B : Q) : ℝ)| * ((((B / J : Q) : ℝ) * ((m : ℝ) * (dt : ℝ))) + 1) * (dt : ℝ) := by
  rw [pos_iter_closed A B J dt w0 p0 hB hJ m]
  push_cast
  exact position_error_real p0 w0 (A / B) (B / J) dt m (by exact_mod_cast hκ) (by exact_mod_cast h0)
    (by exact_mod_cast h1)


/-- along consecutive records related by the step relation, none held, whose recorded acceleration is the affine
    law `(A − B ω)/J`, the last element's speed and position follow `iter` / `posIter` from the first record's -/
theorem steps_follow_iter {A B J dt : Q} {l : List Rec} (hs : Pairs (C03.StepRel dt) l)
    (hacc : ∀ r ∈ l, r.locked = false ∧ lastD r.acc = (A - B * lastD r.speed) / J) (k : Nat) (hk : k < l.length) :
    lastD l[k].speed = iter A B J dt (lastD (l[0]'(by omega)).speed) k ∧
      lastD l[k].pos = posIter A B J dt (lastD (l[0]'(by omega)).speed) (lastD (l[0]'(by omega)).pos) k := by
  induction k with
  | zero => exact ⟨rfl, rfl⟩
  | succ j ih =>
    obtain ⟨hv, hp⟩ := ih (by omega)
    obtain ⟨hp1, hv1⟩ := pairs_get hs j hk
    rw [(hacc _ (List.getElem_mem hk)).1, if_neg Bool.false_ne_true] at hv1
    have hv2 : lastD l[j + 1].speed = iter A B J dt (lastD (l[0]'(by omega)).speed) (j + 1) := by
      rw [hv1, (hacc _ (List.getElem_mem (by omega))).2, hv, iter]; ring
    exact ⟨hv2, by rw [hp1, ← hv1, hv2, hp, posIter]⟩

/-- with no controller the duty cycle of the motor and of every record is the initial one -/
def PwmConst (p0 : Q) (s : St) : Prop := s.pwm = p0 ∧ ∀ r ∈ s.recs, r.pwm = p0

theorem pwmConst_kept (c : Cfg) (hc : c.control = none) (p0 : Q) : KeptByRun c (PwmConst p0) :=
  pwm_kept c (· = p0) fun f hf => by rw [hc] at hf; cases hf

/-- C04 (reduction, end to end on the model): a fresh run of a chain that cannot self-lock, without
    controller, with a motor law affine in the speed at the duty cycle in force and a constant load,
    records on its last element exactly the recursion `iter` / `posIter` — whose distance to the
    closed-form solution `speed_error_bound` / `position_error_bound` bound by a multiple of `dt` -/
theorem run_follows_iter (c : Cfg) (dt a b L p v p0 : Q) (n : Nat) (stop) (s' : St)
    (hsl : c.sl = false) (hc : c.control = none)
    (hm : ∀ w, c.motorTorque w p0 = a - b * w) (hL : ∀ x y t, c.load x y t = L)
    (h : run c dt n stop { St.init p v with pwm := p0 } = .ok s') :
    ∀ k (hk : k < s'.recs.length),
      lastD (s'.recs[k]).speed =
        iter (a * gain c.links - L) (b * prodR (c.links.map (·.ratio)) * gain c.links) (inertia c) dt v k ∧
      lastD (s'.recs[k]).pos =
        posIter (a * gain c.links - L) (b * prodR (c.links.map (·.ratio)) * gain c.links) (inertia c) dt v p k := by
  have hinv : StInv c { St.init p v with pwm := p0 } := frameInv_of_nil rfl rfl
  obtain ⟨new, hnew, hsteps, _⟩ := C03.run_steps c dt n stop _ s' hinv (by intro a ha; simp [St.init] at ha) h
  obtain ⟨r0, s0, rest, h0, hrr⟩ := run_fresh_head rfl h
  have hok := (run_kept (stInv_kept c).toKeptByRun h hinv).1
  have hpc := (run_kept (pwmConst_kept c hc p0) h ⟨rfl, by simp [St.init]⟩).2
  have hunl : ∀ r ∈ s'.recs, r.locked = false := fun r hr => (hok r hr).unlocked hsl
  rw [hrr] at hok hpc hunl
  have hiter := steps_follow_iter (l := r0 :: rest) ((C03.stepsOK_iff_pairs dt _).mp (by rw [← hrr, hnew]; exact hsteps))
    fun r hr => ⟨hunl r hr, record_acc_affine c r (hok r hr) (hunl r hr) a b L (by rw [hpc r hr]; exact hm) (hL _ _ _)⟩
  -- the first record holds the initial conditions
  have hv0 : lastD r0.speed = v := by rw [h0.lastSpeed, h0.speed', hunl r0 (by simp)]; rfl
  have hp0 : lastD r0.pos = p := by rw [h0.lastPos, h0.pos']; rfl
  intro k hk
  simp only [hrr] at hk ⊢
  rw [← hv0, ← hp0]
  exact hiter k hk

/-- C04: on a fresh run (hypotheses of `run_follows_iter`, `κ = B/J > 0`, `0 ≤ κ dt ≤ 1`) the recorded
    speed and position of the output element stay within a bound proportional to `dt` of the
    closed-form solution at every recorded instant `k` (time `k·dt`) -/
theorem C04_run (c : Cfg) (dt a b L p v p0 : Q) (n : Nat) (stop) (s' : St)
    (hsl : c.sl = false) (hc : c.control = none)
    (hm : ∀ w, c.motorTorque w p0 = a - b * w) (hL : ∀ x y t, c.load x y t = L)
    (h : run c dt n stop { St.init p v with pwm := p0 } = .ok s')
    (A B : Q) (hA : A = a * gain c.links - L) (hBd : B = b * prodR (c.links.map (·.ratio)) * gain c.links)
    (hB : B ≠ 0) (hJ : inertia c ≠ 0) (hκ : 0 < B / inertia c)
    (h0 : 0 ≤ B / inertia c * dt) (h1 : B / inertia c * dt ≤ 1) :
    ∀ k (hk : k < s'.recs.length),
      |((lastD (s'.recs[k]).speed : Q) : ℝ)
          - exact ((A / B : Q) : ℝ) (v : ℝ) ((B / inertia c : Q) : ℝ) ((k : ℝ) * (dt : ℝ))|
        ≤ |((v - A / B : Q) : ℝ)| * ((((B / inertia c : Q) : ℝ) * ((k : ℝ) * (dt : ℝ))) * (((B / inertia c : Q) : ℝ) * (dt : ℝ))) ∧
      |((lastD (s'.recs[k]).pos : Q) : ℝ)
          - exactPos ((A / B : Q) : ℝ) (v : ℝ) ((B / inertia c : Q) : ℝ) (p : ℝ) ((k : ℝ) * (dt : ℝ))|
        ≤ |((v - A / B : Q) : ℝ)| * ((((B / inertia c : Q) : ℝ) * ((k : ℝ) * (dt : ℝ))) + 1) * (dt : ℝ) := by
  intro k hk
  obtain ⟨e1, e2⟩ := run_follows_iter c dt a b L p v p0 n stop s' hsl hc hm hL h k hk
  rw [e1, e2, ← hA, ← hBd]
  exact ⟨speed_error_bound A B (inertia c) dt v hB hJ k h0 h1,
         position_error_bound A B (inertia c) dt v p hB hJ k hκ h0 h1⟩

/-! ### non-vacuity: A = 2, B = 1, J = 4, dt = 1/2 (κ dt = 1/8), three steps -/
example : iter 2 1 4 (1/2) 0 3 - 2 / 1 = (1 - 1 / 4 * (1/2)) ^ 3 * (0 - 2 / 1) := affine_iter 2 1 4 (1/2) 0 (by norm_num) (by norm_num) 3

example : posIter 2 1 4 (1/2) 0 0 2 = 0 + 2 / 1 * ((2 : Q) * (1/2)) + (0 - 2 / 1) * (1 - 1 / 4 * (1/2)) * (1 - (1 - 1 / 4 * (1/2)) ^ 2) / (1 / 4) := by
  simpa using pos_iter_closed 2 1 4 (1/2) 0 0 (by norm_num) (by norm_num) 2

end Gearpy.C04
