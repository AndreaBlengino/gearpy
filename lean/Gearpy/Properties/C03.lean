import Gearpy.Proofs.History
import Gearpy.Proofs.UnitStep
/-!
# C03 — equation of motion and time-step update of the output element

* `C03_acc`: on every record of every history, unless the powertrain is held, the last element's
  acceleration is its net torque divided by the equivalent inertia; `inertia_snoc` /
  `inertia_nil` are the documented reduction (start from the motor inertia; going downstream
  multiply the running total by each element's ratio and add its inertia).
* step update (`StepRel`, `loop_steps`, `run_steps`): between two consecutive instants `dt` apart (within a run and across a continued
  run alike) the speed advances by the previously recorded acceleration times `dt` — and is
  recorded as `0` exactly when self-locking holds the powertrain at the new instant — and the
  position advances by that advanced speed times `dt`.
* `integrate_units`, `acceleration_units`, `inertia_units`: the code performs these updates with
  unit-aware operators on quantities (`speed += acceleration * dt`, `torque / inertia`, inertia
  reduction `J * ratio + J_i`); whatever units the inertias, `dt`, the initial position and speed are
  expressed in, the SI reading of the unit-level result is the SI-level model's result.
-/

namespace Gearpy.C03
open Gearpy

theorem inertia_nil (c : Cfg) (h : c.links = []) : inertia c = c.J0 := by simp [inertia, h]

theorem inertia_snoc (J0 : Q) (ls : List Link) (l : Link) :
    (ls ++ [l]).foldl (fun J l => J * l.ratio + l.inertia) J0 =
      ls.foldl (fun J l => J * l.ratio + l.inertia) J0 * l.ratio + l.inertia := by
  simp [List.foldl_append]

theorem C03_acc (c : Cfg) (ops : List Op) (p v : Q) (s' : St)
    (he : exec c ops (St.init p v) = .ok s') :
    ∀ r ∈ s'.recs, r.locked = false → lastD r.acc = lastD r.torque / inertia c :=
  fun r hr => (records_ok he r hr).eom

/-- relation between two consecutive records `dt` apart -/
def StepRel (dt : Q) (a b : Rec) : Prop :=
  lastD b.pos = lastD a.pos + (lastD a.speed + lastD a.acc * dt) * dt ∧
  lastD b.speed = (if b.locked then 0 else lastD a.speed + lastD a.acc * dt)

/-- the live attributes of the last element equal the last record's (the part of `Live` the step relation needs;
    unlike `Live` it survives a change of duty cycle or solver between runs) -/
def Coherent (s : St) : Prop :=
  ∀ a, s.recs.getLast? = some a → s.pos = lastD a.pos ∧ s.speed = lastD a.speed ∧ s.acc = lastD a.acc

def StepsOK (dt : Q) : List Rec → Prop
  | a :: b :: rest => StepRel dt a b ∧ StepsOK dt (b :: rest)
  | _ => True

theorem stepsOK_iff_pairs (dt : Q) : ∀ l, StepsOK dt l ↔ Pairs (StepRel dt) l
  | [] | [_] => Iff.rfl
  | _ :: b :: rest => and_congr Iff.rfl (stepsOK_iff_pairs dt (b :: rest))

theorem coherent_of_live {s : St} (h : Live s) : Coherent s :=
  fun a ha => ⟨(h a ha).2.2.1, (h a ha).2.2.2.1, (h a ha).2.2.2.2.1⟩

theorem step_rel {c : Cfg} {dt : Q} (s : St) (t : Q) (s' : St) (hi : StInv c s ∧ Coherent s)
    (h : stepAt c dt s t = .ok s') :
    (StInv c s' ∧ Coherent s') ∧ ∃ b, s'.recs = s.recs ++ [b] ∧ ∀ a, s.recs.getLast? = some a → StepRel dt a b := by
  obtain ⟨b, hb⟩ := stepAt_ok h
  refine ⟨(compute_inv2 c (integrate s dt) s' t hi.1 h).imp_right coherent_of_live, b, hb.recs, fun a ha => ?_⟩
  obtain ⟨h1, h2, h3⟩ := hi.2 a ha
  exact ⟨by rw [hb.lastPos, hb.pos', ← h1, ← h2, ← h3]; rfl, by rw [hb.lastSpeed, hb.speed', ← h2, ← h3]; rfl⟩

theorem getLast?_append_single {α} (l : List α) (x : α) : (l ++ [x]).getLast? = some x := by simp

/-- C03 (step): along a loop from a coherent state, all consecutive records — the last old one included — satisfy the step relation -/
theorem loop_steps (c : Cfg) (dt : Q) (stop) (ts : List Q) (s s' : St)
    (hinv : StInv c s) (hco : Coherent s) (h : loop c dt stop ts s = .ok s') :
    ∃ new, s'.recs = s.recs ++ new ∧ StepsOK dt (s.recs.getLast?.toList ++ new) ∧ Coherent s' := by
  obtain ⟨new, hn, hp, hi⟩ := loop_pairs_of step_rel h ⟨hinv, hco⟩
  exact ⟨new, hn, (stepsOK_iff_pairs dt _).mpr hp, hi.2⟩

/-- C03 (step) for a run: a fresh run (whose first record comes from the initial `compute`) and a
    continued run (which steps from the last record of the previous run) alike -/
theorem run_steps (c : Cfg) (dt : Q) (n : Nat) (stop) (s s' : St)
    (hinv : StInv c s) (hco : Coherent s) (h : run c dt n stop s = .ok s') :
    ∃ new, s'.recs = s.recs ++ new ∧ StepsOK dt (s.recs.getLast?.toList ++ new) ∧ Coherent s' := by
  obtain ⟨new, hn, hp, hi⟩ := run_pairs_of step_rel
    (fun _ s0 hi _ hc => (compute_inv2 c _ s0 0 ((stInv_kept c).unlock hi.1) hc).imp_right coherent_of_live)
    h ⟨hinv, hco⟩
  exact ⟨new, hn, (stepsOK_iff_pairs dt _).mpr hp, hi.2⟩

theorem integrate_units {T : Tbl} (g : T.Good) (pos speed acc dt p v : Qty) (s : St)
    (h : integrateU T pos speed acc dt = .ok (p, v))
    (hs : s.pos = siMag T pos ∧ s.speed = siMag T speed ∧ s.acc = siMag T acc) :
    (integrate s (siMag T dt)).pos = siMag T p ∧ (integrate s (siMag T dt)).speed = siMag T v := by
  obtain ⟨h1, h2⟩ := integrateU_si g pos speed acc dt p v h
  obtain ⟨e1, e2, e3⟩ := hs
  simp only [integrate, e1, e2, e3]
  exact ⟨h2.symm, h1.symm⟩

theorem acceleration_units {T : Tbl} (g : T.Good) (torque inertia r : Qty)
    (h : accelerationU T torque inertia = .ok r) : siMag T r = siMag T torque / siMag T inertia :=
  C06.div_si g torque (.q inertia) r (asQty_eq_ok.mp h)

theorem inertia_units {T : Tbl} (g : T.Good) (Jrun Ji x r : Qty) (ratio : Q)
    (h1 : mul T Jrun (.n ratio) = .ok (.q x)) (h2 : add T x (.q Ji) = .ok (.q r)) :
    siMag T r = siMag T Jrun * ratio + siMag T Ji := by
  have e1 := C06.mul_si g Jrun (.n ratio) x h1
  have e2 := C06.add_si g x Ji r h2
  simp only [C06.valSI] at e1
  rw [e2, e1]

/-! ### non-vacuity: the relation holds on a concrete two-step history -/
example : StepRel (1/2) ⟨0, [2], [1], [4], [], [], [], 1, none, false, [], [], []⟩ ⟨1/2, [7/2], [3], [0], [], [], [], 1, none, false, [], [], []⟩ := by
  simp [StepRel, lastD]; norm_num

end Gearpy.C03
