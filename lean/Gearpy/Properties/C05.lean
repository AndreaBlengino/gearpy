import Gearpy.Proofs.Units
import Gearpy.Spec.SI
import Gearpy.Proofs.GenTable
/-!
# C05 — unit conversion agrees with SI definitions; comparisons are unit-blind

Table theorems (about the table **regenerated from the source on every run**):
* `unit_names_match_SI`, `factor_matches_SI`: the code's units are exactly the SI spec's, and every
  factor equals its structural SI definition up to 2⁻⁵⁰ relative (double rounding of `2*pi/60` …);
* `gen_good`: the generated table satisfies `Tbl.Good` (positive factors, SI unit = 1,
  sub-kinds share their base kind's table).

Laws for every `Good` table, every value, every unit:
* `toCopy_si`, `toInplace_si`: conversion keeps the SI magnitude; `toInplace_eq_copy`;
  `conv_roundtrip`: there and back is the identity (exact in ℚ);
* `cmp_unit_blind`: a comparison is a function of the two SI magnitudes, of whether the units
  coincide, and of the tolerance `tol·f(unit of the operand whose method runs)` (`effLeft`);
* `cmp_distinct_partial`: operands whose SI gap exceeds that tolerance are ordered as their
  magnitudes are; `eq_symm_partial`: operands closer than both tolerances compare equal whichever is on
  the left; `cmp_same_unit_exact`: operands in the same unit are compared exactly.
The full-strength statements (gap measured *relative* to the magnitudes) are false of the
code — it uses an absolute tolerance — `K1_witness_*` prove the negation on the generated table
(known finding K1).
-/

namespace Gearpy.C05
open Gearpy Gearpy.Kind

theorem unit_names_match_SI : ∀ k ∈ allKinds, Gen.unitNames k = (SI.units k).map (·.1) := by
  decide +kernel

/-- |factor − SI definition| ≤ SI definition · 2⁻⁵⁰, entry by entry -/
def factorsClose (fs : List Q) (ss : List Q) : Bool :=
  fs.length == ss.length &&
  (List.zipWith (fun f s => decide (qabs (f - s) ≤ s / 1125899906842624)) fs ss).all id

theorem factor_matches_SI : ∀ k ∈ allKinds, factorsClose (Gen.factors k) ((SI.units k).map (·.2)) = true := by
  decide +kernel

theorem gen_good : Gen.tbl.Good := Gearpy.gen_good

variable {T : Tbl}

theorem toCopy_si (g : T.Good) (a r : Qty) (u : Nat) (h : toCopy T a u = .ok r) : siMag T r = siMag T a := by
  obtain ⟨-, rfl⟩ := mk_eq_ok.mp h; exact conv_mul g a u

theorem toInplace_si (g : T.Good) (a : Qty) (u : Nat) : siMag T (toInplace T a u) = siMag T a := by
  unfold toInplace; exact conv_mul g a u

/-- copying and in-place conversion give the same object; the copy is a new value (the original
    `a` is not an output of `toCopy`, so it is untouched by construction) -/
theorem toInplace_eq_copy (a r : Qty) (u : Nat) (h : toCopy T a u = .ok r) : toInplace T a u = r := by
  obtain ⟨-, rfl⟩ := mk_eq_ok.mp h; rfl

/-- a valid quantity always converts (factors are positive, so the sign constraint is kept) -/
theorem toCopy_ok (g : T.Good) (a : Qty) (u : Nat) (h : signOk a.kind a.value = true) :
    ∃ r, toCopy T a u = .ok r :=
  ⟨_, mk_eq_ok.mpr ⟨(signOk_conv g a u).trans h, rfl⟩⟩

theorem conv_roundtrip (g : T.Good) (a : Qty) (u : Nat) :
    conv T ⟨a.kind, conv T a u, u⟩ a.unit = a.value := by
  rw [conv_eq_div g, siMag]
  show conv T a u * T.f a.kind u / T.f a.kind a.unit = a.value
  rw [conv_mul g, siMag, mul_div_cancel_right₀ _ (g.pos _ _).ne']

theorem conv_ratio (a : Qty) (u : Nat) (h : u ≠ a.unit) :
    conv T a u = a.value * (T.f a.kind a.unit / T.f a.kind u) := by
  unfold conv; rw [if_neg h, mul_div_assoc]

/-- comparisons are unit-blind up to the tolerance: the outcome is determined by the SI magnitudes
    (`effLeft` is the operand whose method runs under CPython's reflected dispatch) -/
theorem cmp_unit_blind (g : T.Good) (c : Cmp) (a o : Qty) (b : Bool) (h : cmp T c a (.q o) = .ok b) :
    b = cmpRaw (T.tol * T.f (effLeft a o).kind (effLeft a o).unit) (effCmp c a o)
          ((effLeft a o).unit == (effRight a o).unit) (siMag T (effLeft a o)) (siMag T (effRight a o)) :=
  cmp_si g c a o b h

/-- the SI order a comparison operator stands for -/
def siOrder (c : Cmp) (x y : Q) : Bool :=
  match c with
  | .eq => x == y | .ne => x != y | .lt => decide (x < y) | .le => decide (x ≤ y)
  | .gt => decide (y < x) | .ge => decide (y ≤ x)

theorem cmpRaw_exact (t : Q) (c : Cmp) (x y : Q) : cmpRaw t c true x y = siOrder c x y := by
  cases c <;> rfl

/-- a tolerant comparison of `x` more than the tolerance above `y` is exact: `==`, `<`, `<=` are false and
    `!=`, `>`, `>=` true either way -/
theorem cmpRaw_distinct_gt (t x y : Q) (c : Cmp) (ht : 0 < t) (h : t < x - y) :
    cmpRaw t c false x y = siOrder c x y := by
  have hq : qabs (x - y) = x - y := by rw [qabs_eq_abs, abs_of_pos (ht.trans h)]
  have hxy : y < x := sub_pos.mp (ht.trans h)
  have hneg : -t < x - y := (neg_lt_zero.mpr ht).trans (ht.trans h)
  cases c <;>
    simp only [cmpRaw, siOrder, Bool.false_eq_true, if_false, hq, bne, Bool.beq_eq_decide_eq, ← decide_not,
      decide_eq_decide]
  · exact iff_of_false h.not_gt hxy.ne'
  · exact iff_of_true h hxy.ne'
  · exact iff_of_false hneg.not_gt hxy.not_gt
  · exact iff_of_false h.not_ge hxy.not_ge
  · exact iff_of_true h hxy
  · exact iff_of_true hneg.le hxy.le

theorem cmpRaw_distinct (t x y : Q) (c : Cmp) (e : Bool) (ht : 0 < t) (hgap : t < qabs (x - y)) :
    cmpRaw t c e x y = siOrder c x y := by
  cases e
  · rcases lt_abs.mp (qabs_eq_abs _ ▸ hgap) with h | h
    · exact cmpRaw_distinct_gt t x y c ht h
    · -- `y` is the larger: ask the reflected question
      rw [← cmpRaw_exact t, ← cmpRaw_swap t c false, ← cmpRaw_swap t c true, cmpRaw_exact]
      exact cmpRaw_distinct_gt t y x _ ht (neg_sub x y ▸ h)
  · exact cmpRaw_exact t c x y

/-- operands whose SI magnitudes differ by more than the (absolute) tolerance — expressed through
    the unit of the operand whose method runs — are ordered as their magnitudes are -/
theorem cmp_distinct_partial (g : T.Good) (c : Cmp) (a o : Qty) (b : Bool)
    (h : cmp T c a (.q o) = .ok b)
    (hgap : T.tol * T.f (effLeft a o).kind (effLeft a o).unit < qabs (siMag T a - siMag T o)) :
    b = siOrder c (siMag T a) (siMag T o) := by
  rw [cmp_tol g c a o b h]
  exact cmpRaw_distinct _ _ _ _ _ (mul_pos g.tolpos (g.pos _ _)) hgap

theorem eq_symm_partial (g : T.Good) (a o : Qty) (b1 b2 : Bool)
    (h1 : cmp T .eq a (.q o) = .ok b1) (h2 : cmp T .eq o (.q a) = .ok b2)
    (hu : a.unit ≠ o.unit)
    (hgap1 : qabs (siMag T a - siMag T o) < T.tol * T.f a.kind a.unit)
    (hgap2 : qabs (siMag T a - siMag T o) < T.tol * T.f o.kind o.unit) :
    b1 = true ∧ b2 = true := by
  -- whichever operand's method runs, the gap is below the tolerance read in its unit
  have key : ∀ l : Qty, l = a ∨ l = o → qabs (siMag T a - siMag T o) < T.tol * T.f l.kind l.unit := by
    rintro l (rfl | rfl) <;> assumption
  rw [cmp_tol g .eq a o b1 h1, cmp_tol g .eq o a b2 h2, beq_false_of_ne hu, beq_false_of_ne hu.symm]
  simp only [cmpRaw, Bool.false_eq_true, if_false, decide_eq_true_eq]
  rw [← qabs_neg (siMag T o - siMag T a), neg_sub]
  exact ⟨key _ (effLeft_eq a o), key _ (effLeft_eq o a).symm⟩

theorem cmp_same_unit_exact (g : T.Good) (c : Cmp) (a o : Qty) (b : Bool) (hu : a.unit = o.unit)
    (h : cmp T c a (.q o) = .ok b) : b = siOrder c (siMag T a) (siMag T o) := by
  rw [cmp_tol g c a o b h, beq_iff_eq.mpr hu]
  exact cmpRaw_exact _ c _ _

/-! ### K1: the tolerance is absolute, so the full-strength statement fails -/

/-- the statement at full strength: operands in different units that compare equal differ by at most a relative
    10⁻⁹ (the witness below compares equal with magnitudes a factor 2 apart) -/
def eq_relative_full (T : Tbl) : Prop :=
  ∀ a o : Qty, cmp T .eq a (.q o) = .ok true → a.unit ≠ o.unit →
    qabs (siMag T a - siMag T o) ≤ siMag T a / 1000000000

/-- `Length(1e-13,'m') == Length(2e-10,'mm')` is True although the magnitudes differ by a factor 2 … -/
theorem K1_witness_eq :
    cmp Gen.tbl .eq ⟨length, 1/10000000000000, 0⟩ (.q ⟨length, 2/10000000000, 3⟩) = .ok true := by
  decide +kernel

/-- … and False with the operands swapped -/
theorem K1_witness_swapped :
    cmp Gen.tbl .eq ⟨length, 2/10000000000, 3⟩ (.q ⟨length, 1/10000000000000, 0⟩) = .ok false := by
  decide +kernel

theorem eq_relative_full_false : ¬ eq_relative_full Gen.tbl := by
  intro h
  have := h _ _ K1_witness_eq (by decide)
  revert this
  decide +kernel

/-! ### non-vacuity -/
example : toCopy Gen.tbl ⟨angSpeed, 60, 7⟩ 0 = .ok ⟨angSpeed, conv Gen.tbl ⟨angSpeed, 60, 7⟩ 0, 0⟩ := by
  decide +kernel

end Gearpy.C05
