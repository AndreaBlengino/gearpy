import Gearpy.Proofs.Grid
import Gearpy.Properties.C16
import Mathlib.Tactic.FieldSimp
import Gearpy.Generated.Tables
/-!
# C11 — the time axis is the uniform grid 0, dt, …, T and never overruns T

Exact arithmetic (unit-carrying model of the raw-value site in `Solver.run`):
* `steps_exact`: `T = n·dt` (in SI, whatever the units of `T` and `dt`) ⇒ exactly `n` steps;
* `fresh_axis`: a fresh run without stop records `0 :: [dt, 2dt, …, n·dt]`; `axis_last` its last
  instant is `T`; `axis_spacing` consecutive instants are `dt` apart; `never_beyond`:
  `n·dt ≤ T + 10⁻⁹·dt` for arbitrary `T`, `dt` (also when `T` is not a multiple of `dt`);
* `continued_axis`: a continued run appends `t_last + i·dt`, `1 ≤ i ≤ n`, with `t_last` converted to
  the unit of the new time step (`gridU_si`);
* `stopped_axis_prefix`: with a stop condition the axis is a prefix of that grid (C16).
* `schedule_axis_increasing` / `schedule_axis_nodup`: along **every** schedule of runs (fresh, continued, stopped,
  different time steps, different `Solver` objects), resets and attribute changes with positive time steps the
  whole recorded axis is strictly increasing — no instant twice, none out of order (`run_axis_increasing` per run);
  `reset_then_fresh_axis`: after `reset` the next run (any solver) records the axis of a first run.
Floating point: the step count the code computes is `⌊(T/dt)(1+δ) + 10⁻⁹⌋` with `δ` the
rounding of the quotient.
* `count_robust`: for every perturbation with `n·|δ| < c ≤ ½` the guarded floor returns `n`
  — the obligation the repaired code meets with `c = 10⁻⁹`;
* `arange_fragile`: the `numpy.arange` length `⌈(T/dt)(1+δ)⌉` the code used before the repair
  returns `n+1` for arbitrarily small `δ > 0` (why 8.5 % of decimal inputs overran).
-/

namespace Gearpy.C11
open Gearpy Gearpy.Kind

variable {T : Tbl}

theorem fresh_axis (c : Cfg) (dt : Q) (n : Nat) (s s' : St) (h0 : s.recs = [])
    (h : run c dt n none s = .ok s') : s'.recs.map (·.time) = 0 :: grid 0 dt n := by
  obtain ⟨r, s0, hr, h⟩ := run_fresh_ok h0 h
  rw [loop_times c dt _ s0 s' h, hr.recs]; simp [h0, hr.time]

theorem continued_axis (c : Cfg) (dt : Q) (n : Nat) (s s' : St) (t0 : Q) (h0 : lastTime s = some t0)
    (h : run c dt n none s = .ok s') : s'.recs.map (·.time) = s.recs.map (·.time) ++ grid t0 dt n := by
  exact loop_times c dt _ s s' (run_continued h0 ▸ h)

/-- the appended instants depend on the powertrain's recorded axis only — not on the solver-private state (the lock
    flag of the `Solver` object that happens to be used): two `Solver` objects used in turn on one powertrain both
    continue from the last recorded instant -/
theorem continued_axis_any_solver (c : Cfg) (dt : Q) (n : Nat) (s s' : St) (t0 : Q) (b : Bool)
    (h0 : lastTime s = some t0) (h : run c dt n none { s with locked := b } = .ok s') :
    s'.recs.map (·.time) = s.recs.map (·.time) ++ grid t0 dt n :=
  continued_axis c dt n { s with locked := b } s' t0 (by simpa [lastTime] using h0) h

theorem stopped_axis_prefix (c : Cfg) (dt : Q) (n : Nat) (f : Rec → Bool) (s s' : St) (t0 : Q)
    (h0 : lastTime s = some t0) (h : run c dt n (some f) s = .ok s') :
    ∃ us vs, grid t0 dt n = us ++ vs ∧ s'.recs.map (·.time) = s.recs.map (·.time) ++ us := by
  exact C16.stop_times c dt f _ s s' (run_continued h0 ▸ h)

theorem axis_last (dt : Q) (n : Nat) : (grid 0 dt (n + 1)).getLast? = some (((n + 1 : Nat) : Q) * dt) := by
  rw [grid_getLast]; simp

theorem axis_spacing (t0 dt : Q) (n i : Nat) (hi : i + 1 < n) :
    (grid t0 dt n)[i + 1]'(by simp [grid]; omega) - (grid t0 dt n)[i]'(by simp [grid]; omega) = dt := by
  simp [grid]; ring

/-- guarded floor: for every perturbation with `n·|δ| < c ≤ ½` the count is exactly `n` -/
theorem count_robust (n : ℕ) (δ c : ℚ) (hc0 : 0 < c) (hc : c ≤ 1/2) (hδ : (n : ℚ) * |δ| < c) :
    ⌊(n : ℚ) * (1 + δ) + c⌋ = (n : ℤ) := by
  have h : |(n : ℚ) * δ| < c := by rwa [abs_mul, Nat.abs_cast]
  rw [abs_lt] at h
  rw [Int.floor_eq_iff]
  constructor <;> push_cast <;> linarith

/-- the repaired code's guard `c = 10⁻⁹` meets the obligation for every run of up to 10⁶ steps
    whose quotient is computed with relative error below 10⁻¹⁵ -/
theorem guard_suffices (n : ℕ) (δ : ℚ) (hn : n ≤ 1000000) (hδ : |δ| < 1 / 1000000000000000) :
    ⌊(n : ℚ) * (1 + δ) + gridGuard⌋ = (n : ℤ) := by
  apply count_robust n δ gridGuard (by unfold gridGuard; norm_num) (by unfold gridGuard; norm_num)
  have hn' : (n : ℚ) ≤ 1000000 := by exact_mod_cast hn
  have h0 : (0 : ℚ) ≤ n := Nat.cast_nonneg n
  have ha : 0 ≤ |δ| := abs_nonneg δ
  unfold gridGuard
  nlinarith

/-- exact arithmetic is the case `δ = 0`: with `T = n·dt` (in SI, whatever the units) the run makes exactly `n` steps -/
theorem steps_exact (g : T.Good) (dt sim : Qty) (hd : IsTime dt) (hs : IsTime sim) (n : Nat)
    (hpos : 0 < siMag T dt) (hT : siMag T sim = (n : Q) * siMag T dt) : nSteps T dt sim = n := by
  have h := count_robust n 0 gridGuard (by norm_num [gridGuard]) (by norm_num [gridGuard]) (by norm_num [gridGuard])
  rw [add_zero, mul_one] at h
  rw [nSteps_si g dt sim hd hs, hT, mul_div_assoc, div_self hpos.ne', mul_one]
  exact (congrArg Int.toNat h).trans (Int.toNat_natCast n)

theorem never_beyond (g : T.Good) (dt sim : Qty) (hd : IsTime dt) (hs : IsTime sim)
    (hpos : 0 < siMag T dt) (hsim : 0 ≤ siMag T sim) :
    (nSteps T dt sim : Q) * siMag T dt ≤ siMag T sim + gridGuard * siMag T dt := by
  have hx : 0 ≤ siMag T sim / siMag T dt + gridGuard :=
    add_nonneg (div_nonneg hsim hpos.le) (by norm_num [gridGuard])
  rw [nSteps_si g dt sim hd hs]
  change ((⌊siMag T sim / siMag T dt + gridGuard⌋.toNat : Nat) : Q) * _ ≤ _
  rw [Int.floor_toNat]
  calc _ ≤ (siMag T sim / siMag T dt + gridGuard) * siMag T dt :=
        mul_le_mul_of_nonneg_right (Nat.floor_le hx) hpos.le
    _ = _ := by rw [add_mul, div_mul_cancel₀ _ hpos.ne']

/-- `numpy.arange`-style count `⌈q(1+δ)⌉` overshoots for arbitrarily small positive perturbations -/
theorem arange_fragile (n : ℕ) (hn : 1 ≤ n) (ε : ℚ) (hε : 0 < ε) :
    ∃ δ : ℚ, |δ| ≤ ε ∧ ⌈(n : ℚ) * (1 + δ)⌉ = (n : ℤ) + 1 := by
  have hnq : (0 : ℚ) < n := by exact_mod_cast hn
  refine ⟨min ε (1 / (2 * n)), ?_, ?_⟩
  · rw [abs_of_pos (lt_min hε (by positivity))]; exact min_le_left _ _
  · rw [Int.ceil_eq_iff]
    have hpos : 0 < min ε (1 / (2 * (n : ℚ))) := lt_min hε (by positivity)
    have hle : min ε (1 / (2 * (n : ℚ))) ≤ 1 / (2 * n) := min_le_right _ _
    have hmul : (n : ℚ) * min ε (1 / (2 * (n : ℚ))) ≤ 1 / 2 := by
      calc (n : ℚ) * min ε (1 / (2 * (n : ℚ))) ≤ n * (1 / (2 * n)) := by gcongr
        _ = 1 / 2 := by field_simp
    have hmul0 : 0 < (n : ℚ) * min ε (1 / (2 * (n : ℚ))) := by positivity
    constructor
    · push_cast; linarith
    · push_cast; linarith

/-! ### the whole recorded axis, for every schedule of runs, resets and attribute changes -/
/-- whatever the stop condition, the instants a loop appends are a prefix of its grid -/
theorem loop_times_any (c : Cfg) (dt : Q) (stop : Option (Rec → Bool)) (ts : List Q) (s s' : St)
    (h : loop c dt stop ts s = .ok s') :
    ∃ us vs, ts = us ++ vs ∧ s'.recs.map (·.time) = s.recs.map (·.time) ++ us := by
  cases stop with
  | none => exact ⟨ts, [], by simp, loop_times c dt ts s s' h⟩
  | some f => exact C16.stop_times c dt f ts s s' h

theorem grid_increasing (t0 dt : Q) (n : Nat) (hdt : 0 < dt) : (grid t0 dt n).Pairwise (· < ·) := by
  unfold grid
  rw [List.pairwise_map]
  refine List.Pairwise.imp ?_ (List.pairwise_lt_range)
  intro i j hij
  have : ((i + 1 : Nat) : Q) < ((j + 1 : Nat) : Q) := by exact_mod_cast Nat.succ_lt_succ hij
  nlinarith

/-- the axis is strictly increasing for a positive time step (needed by interpolation, C18) -/
theorem axis_strictMono (t0 dt : Q) (n i j : Nat) (hdt : 0 < dt) (hij : i < j) (hj : j < n) :
    (grid t0 dt n)[i]'(by simp [grid]; omega) < (grid t0 dt n)[j]'(by simp [grid]; omega) :=
  List.pairwise_iff_getElem.mp (grid_increasing t0 dt n hdt) i j _ _ hij

theorem grid_after (t0 dt : Q) (n : Nat) (hdt : 0 < dt) : ∀ t ∈ grid t0 dt n, t0 < t := by
  intro t ht
  simp only [grid, List.mem_map, List.mem_range] at ht
  obtain ⟨i, _, rfl⟩ := ht
  have : (0 : Q) < ((i + 1 : Nat) : Q) := by exact_mod_cast Nat.succ_pos i
  nlinarith

theorem le_last_of_increasing (l : List Q) (t0 : Q) (hl : l.Pairwise (· < ·)) (h : l.getLast? = some t0) :
    ∀ a ∈ l, a ≤ t0 := by
  obtain ⟨ys, rfl⟩ := List.getLast?_eq_some_iff.mp h
  rw [List.pairwise_append] at hl
  intro a ha
  rcases List.mem_append.mp ha with h1 | h1
  · exact le_of_lt (hl.2.2 a h1 t0 (by simp))
  · simp at h1; exact le_of_eq h1

/-- an increasing axis that ends no later than `t0`, followed by a prefix of the grid after `t0`, is increasing -/
theorem axis_append_increasing {base us vs : List Q} {t0 dt : Q} {n : Nat} (hdt : 0 < dt)
    (hb : base.Pairwise (· < ·)) (hle : ∀ a ∈ base, a ≤ t0) (hg : grid t0 dt n = us ++ vs) :
    (base ++ us).Pairwise (· < ·) := by
  have hgi := hg ▸ grid_increasing t0 dt n hdt
  refine List.pairwise_append.mpr ⟨hb, (List.pairwise_append.mp hgi).1, fun a ha b hb => ?_⟩
  exact lt_of_le_of_lt (hle a ha) (grid_after t0 dt n hdt b (hg ▸ List.mem_append_left _ hb))

theorem run_axis_increasing (c : Cfg) (dt : Q) (n : Nat) (stop : Option (Rec → Bool)) (s s' : St) (hdt : 0 < dt)
    (hs : (s.recs.map (·.time)).Pairwise (· < ·)) (h : run c dt n stop s = .ok s') :
    (s'.recs.map (·.time)).Pairwise (· < ·) := by
  rcases run_eq_ok.mp h with ⟨t0, hl, h⟩ | ⟨h0, s0, hc, h⟩
  · obtain ⟨us, vs, hg, ht⟩ := loop_times_any c dt stop _ s s' h
    have hlast : (s.recs.map (·.time)).getLast? = some t0 := by rw [List.getLast?_map]; exact hl
    exact ht ▸ axis_append_increasing hdt hs (le_last_of_increasing _ t0 hs hlast) hg
  · obtain ⟨r, hr⟩ := compute_ok hc
    obtain ⟨us, vs, hg, ht⟩ := loop_times_any c dt stop _ s0 s' h
    have h1 : s0.recs.map (·.time) = [0] := by rw [hr.recs]; simp [h0, hr.time]
    exact ht ▸ h1 ▸ axis_append_increasing hdt (List.pairwise_singleton _ _) (by simp) hg

/-- every run of the schedule has a positive time step (what `Solver.run` enforces) -/
def PosSteps : List Op → Prop
  | [] => True
  | .run dt _ _ :: os => 0 < dt ∧ PosSteps os
  | _ :: os => PosSteps os

/-- **Whole-history time axis.** Along every schedule of runs (fresh, continued, stopped early, with different
    time steps, by different `Solver` objects), resets and attribute changes, the recorded time axis is strictly
    increasing: no instant is recorded twice and none out of order, for every length of schedule. -/
theorem schedule_axis_increasing (c : Cfg) (ops : List Op) (hops : PosSteps ops) (s s' : St)
    (hs : (s.recs.map (·.time)).Pairwise (· < ·)) (h : exec c ops s = .ok s') :
    (s'.recs.map (·.time)).Pairwise (· < ·) := by
  induction ops generalizing s with
  | nil => simp only [exec, Except.ok.injEq] at h; exact h ▸ hs
  | cons o os ih =>
    obtain ⟨s1, ha, h1⟩ := exec_cons.mp h
    -- only a run appends instants; `reset` empties the axis; the attribute writes leave it alone
    cases o with
    | run dt n stop => exact ih hops.2 s1 (run_axis_increasing c dt n stop s s1 hops.1 hs ha) h1
    | reset =>
      obtain ⟨r, rs, _, rfl⟩ := reset_eq_ok.mp ha
      exact ih hops _ List.Pairwise.nil h1
    | setInitial p v => simp only [applyOp, Except.ok.injEq] at ha; exact ih hops s1 (ha ▸ hs) h1
    | setPwm p =>
      simp only [applyOp] at ha
      split at ha
      · simp only [Except.ok.injEq] at ha; exact ih hops s1 (ha ▸ hs) h1
      · simp at ha
    | newSolver => simp only [applyOp, Except.ok.injEq] at ha; exact ih hops s1 (ha ▸ hs) h1

theorem schedule_axis_nodup (c : Cfg) (ops : List Op) (hops : PosSteps ops) (p v : Q) (s' : St)
    (h : exec c ops (St.init p v) = .ok s') : (s'.recs.map (·.time)).Nodup := by
  have := schedule_axis_increasing c ops hops (St.init p v) s' (by simp [St.init]) h
  exact this.imp (fun hab => ne_of_lt hab)

/-- after `Powertrain.reset` the next run starts a fresh axis at 0, whatever had been recorded before and whichever
    solver runs it: the axis of the rerun is the axis of a first run -/
theorem reset_then_fresh_axis (c : Cfg) (dt : Q) (n : Nat) (s sr s' : St) (b : Bool)
    (hr : reset s = .ok sr) (h : run c dt n none { sr with locked := b } = .ok s') :
    s'.recs.map (·.time) = 0 :: grid 0 dt n := by
  obtain ⟨r, rs, _, rfl⟩ := reset_eq_ok.mp hr
  exact fresh_axis c dt n _ s' rfl h

/-! ### non-vacuity: dt = 0.35 s, T = 10.5 s (the input that used to overrun) gives 30 steps -/
example : nSteps Gen.tbl ⟨timeInt, 35/100, 0⟩ ⟨timeInt, 105/10, 0⟩ = 30 := by decide +kernel
example : nSteps Gen.tbl ⟨timeInt, 1000, 3⟩ ⟨timeInt, 5, 0⟩ = 5 := by decide +kernel

/-! ### non-vacuity: two solvers, two time steps, then a reset and a stopped run -/
def exCfg : Cfg :=
  { J0 := 1, links := [⟨2, 9/10, 1/2, true⟩], sl := false, tolW := 0, tolT := 0,
    motorTorque := fun w D => (1 - w / 100) * 2 * D, motorCurrent := fun _ _ => none,
    load := fun _ _ _ => 1/10, control := none }
example : PosSteps [.run (1/4) 2 none, .newSolver, .run (1/3) 2 none] := by simp [PosSteps]
example : (match exec exCfg [.run (1/4) 2 none, .newSolver, .run (1/3) 2 none] (St.init 0 0) with
    | .ok s => s.recs.map (·.time) | .error _ => []) = [0, 1/4, 1/2, 5/6, 7/6] := by decide +kernel
example : (match exec exCfg [.run (1/4) 2 none, .reset, .run (1/2) 4 (some fun r => decide (r.time ≥ 1))] (St.init 0 0) with
    | .ok s => s.recs.map (·.time) | .error _ => []) = [0, 1/2, 1] := by decide +kernel

end Gearpy.C11
