import Gearpy.Proofs.Solver
import Gearpy.Model.Pipeline
/-!
# C01 — kinematic coupling: neighbours move in the gear ratio at every instant

`C01`: for **every** configuration (any chain length, ratios, efficiencies, inertias, motor
law, load function, controller, self-locking or not), every initial condition and **every**
finite list of schedule operations (run / continue / stop early / reset / re-apply initial
conditions / change the duty cycle / new solver), every recorded instant satisfies: the position,
speed and acceleration lists are coupled through the ratio list, `v_i = r_{i+1} · v_{i+1}`.
This includes the first instant, continued runs, early stops and instants at which a self-locking
powertrain is held (`0 = r · 0`).  `Gearpy.coupled_get` restates `Coupled` index by index.
`C01_segments`, `C01_segments_ratios`: the same along schedules whose configuration changes between
runs (`execSeg`: the controller is a parameter of each run, the load function may be replaced, a
relation may be declared again).
The ratio itself (slave/master teeth, wheel teeth/worm starts or inverse, exactly 1 for a
joint) is C10's theorem.
-/

namespace Gearpy.C01
open Gearpy

theorem C01 (c : Cfg) (ops : List Op) (p v : Q) (s' : St)
    (he : exec c ops (St.init p v) = .ok s') :
    ∀ r ∈ s'.recs,
      Coupled (c.links.map (·.ratio)) r.pos ∧
      Coupled (c.links.map (·.ratio)) r.speed ∧
      Coupled (c.links.map (·.ratio)) r.acc :=
  fun r hr => (records_ok he r hr).coupled

/-- the same from any state reached earlier (continuation of an existing history) -/
theorem C01_continue (c : Cfg) (ops : List Op) (s s' : St) (hs : StInv c s)
    (he : exec c ops s = .ok s') :
    ∀ r ∈ s'.recs, Coupled (c.links.map (·.ratio)) r.pos ∧ Coupled (c.links.map (·.ratio)) r.speed ∧
      Coupled (c.links.map (·.ratio)) r.acc :=
  fun r hr => (all_records_ok c ops s s' hs he r hr).coupled

/-- while the powertrain is held, every speed and acceleration is exactly zero -/
theorem C01_held (c : Cfg) (ops : List Op) (p v : Q) (s' : St)
    (he : exec c ops (St.init p v) = .ok s') :
    ∀ r ∈ s'.recs, r.locked = true →
      r.speed = zeros (c.links.length + 1) ∧ r.acc = zeros (c.links.length + 1) :=
  fun r hr => (records_ok he r hr).lockedStill

/-- the ratios the solver uses are the ones the declarations wrote on the heap: link `k` of the
    configuration built from an assembled chain carries the `master_gear_ratio`, efficiency and kind
    of chain element `k+1` (C10's post-conditions say what that ratio is: slave teeth / master teeth,
    wheel teeth / worm starts or its inverse, exactly 1 for a fixed joint) -/
theorem pipeline_link (h : Heap) (J : Nat → Q) (els : List Nat) (k : Nat) (i : Nat) (e : Elem)
    (hk : (els.drop 1)[k]? = some i) (he : h[i]? = some e) :
    (linksOf h J els)[k]? = some { ratio := e.ratio.getD 0, eff := e.eff, inertia := J i, spur := isGearBase e.kind } := by
  unfold linksOf
  rw [List.getElem?_map, hk]
  simp [he]

/-- every record of a simulation of the pipeline's configuration is coupled through exactly those ratios -/
theorem C01_pipeline (T : Tbl) (h : Heap) (ds : List Decl) (m : Nat) (J : Nat → Q) (chain : List Nat) (links : List Link)
    (sl : Bool) (c : Cfg) (ha : assembleLinks T h ds m J = .ok (chain, links, sl)) (hc : c.links = links)
    (ops : List Op) (p v : Q) (s' : St) (he : exec c ops (St.init p v) = .ok s') :
    links = linksOf (declareAll T h ds) J chain ∧
    ∀ r ∈ s'.recs, Coupled (links.map (·.ratio)) r.pos ∧ Coupled (links.map (·.ratio)) r.speed ∧
      Coupled (links.map (·.ratio)) r.acc := by
  refine ⟨?_, hc ▸ C01 c ops p v s' he⟩
  unfold assembleLinks at ha
  simp only at ha
  split at ha
  · simp at ha
  · simp only [Except.ok.injEq, Prod.mk.injEq] at ha
    rw [← ha.2.1, ← ha.1]

/-- C01 along schedules whose configuration changes between runs (another controller, a replaced load
    function, a relation declared again with another efficiency — anything that keeps the ratio list `rs`
    and the self-locking flag): every surviving record is coupled through `rs` -/
theorem C01_segments (rs : List Q) (sl : Bool) (all : List Cfg) (segs : List (Cfg × List Op)) (p v : Q) (s' : St)
    (hall : ∀ seg ∈ segs, seg.1 ∈ all ∧ seg.1.sl = sl) (hrs : ∀ c ∈ all, c.links.map (·.ratio) = rs)
    (he : execSeg segs (St.init p v) = .ok s') :
    ∀ r ∈ s'.recs, Coupled rs r.pos ∧ Coupled rs r.speed ∧ Coupled rs r.acc := by
  intro r hr
  obtain ⟨c, hc, hok⟩ := segment_records_ok hall he r hr
  exact hrs c hc ▸ hok.coupled

/-- … and when a relation is declared again with another *ratio* between two runs (a pair first joined
    rigidly, then mated), every surviving record is coupled through the ratio list of one of the
    configurations of the schedule — the one in force when it was recorded -/
theorem C01_segments_ratios (sl : Bool) (all : List Cfg) (segs : List (Cfg × List Op)) (p v : Q) (s' : St)
    (hall : ∀ seg ∈ segs, seg.1 ∈ all ∧ seg.1.sl = sl) (he : execSeg segs (St.init p v) = .ok s') :
    ∀ r ∈ s'.recs, ∃ c ∈ all, Coupled (c.links.map (·.ratio)) r.pos ∧ Coupled (c.links.map (·.ratio)) r.speed ∧
      Coupled (c.links.map (·.ratio)) r.acc := by
  intro r hr
  obtain ⟨c, hc, hok⟩ := segment_records_ok hall he r hr
  exact ⟨c, hc, hok.coupled⟩

/-! ### non-vacuity: a 3-element chain; a run of 3 steps records 4 instants, and after reset a rerun stopped early 2 -/
def exCfg : Cfg :=
  { J0 := 1, links := [⟨2, 9/10, 1/2, true⟩, ⟨3, 4/5, 1/4, true⟩], sl := false, tolW := 0, tolT := 0,
    motorTorque := fun w D => (1 - w / 100) * 2 * D, motorCurrent := fun _ _ => none,
    load := fun p v t => 1/10 + p / 100 + v / 50 + t / 7, control := none }
def exOps : List Op := [.run (1/4) 3 none, .reset, .setInitial 0 1, .run (1/8) 2 (some fun r => decide (r.time ≥ 1/8))]

example : (match exec exCfg exOps (St.init 0 1) with | .ok s => s.recs.length | .error _ => 0) = 2 := by
  decide +kernel
example : (match exec exCfg [.run (1/4) 3 none] (St.init 0 1) with | .ok s => s.recs.length | .error _ => 0) = 4 := by
  decide +kernel

end Gearpy.C01
