import Gearpy.Proofs.Grid
import Gearpy.Properties.C16
/-!
# C12 — continuation and reset/rerun reproduce the same history

* `run_split`: one run of `n₁ + n₂` steps equals a run of `n₁` steps followed by a continuation of
  `n₂` steps **on the same solver**, as whole states (records, time axis, live attributes, lock
  flag), from an empty or non-empty history alike; `run_split_units`: the continuation may express
  `dt` and `T` in another time unit — the instants it appends have the same SI values
  (`gridU_si` + `nSteps_si`).
* `stop_then_continue`: a continued run ended early by a stop condition after `k ≥ 1` of its `n` steps and then
  continued for the remaining `n − k` steps ends in the same state as one uninterrupted run of `n` steps.
* `rerun_eq`: after `reset` and re-applying the initial conditions, a schedule that starts with a
  run reproduces, record for record, what it produces from freshly built objects — for the same
  solver object and for a new one (the run clears the lock flag when the time axis is empty),
  **provided** the duty cycle restored by `reset` equals the one the motor had before the first
  run, or the powertrain is not self-locking and is controlled.
  The proviso is necessary (known finding K3): `reset` restores the duty cycle *recorded* at the
  first instant, i.e. after control was applied, while a fresh run's first lock check sees the
  attribute as it was before the run; `K3_witness` exhibits a self-locking chain whose controller
  commands `D = 0` at `t = 0` and whose rerun differs.
-/

namespace Gearpy.C12
open Gearpy

/-- a loop over `k+1+n₂` grid points is the loop over the first `k+1` followed by a continued run of `n₂` steps:
    the continuation starts from the last recorded instant, which is the grid point `t₀ + (k+1)·dt` -/
theorem loop_then_run (c : Cfg) (dt t0 : Q) (k n2 : Nat) (s : St) :
    loop c dt none (grid t0 dt (k + 1 + n2)) s =
      match loop c dt none (grid t0 dt (k + 1)) s with
      | .error e => .error e
      | .ok s1 => run c dt n2 none s1 := by
  rw [grid_append, loop_append]
  cases h1 : loop c dt none (grid t0 dt (k + 1)) s with
  | error e => rfl
  | ok s1 => exact (run_continued (loop_grid_lastTime h1)).symm

theorem run_split (c : Cfg) (dt : Q) (n1 n2 : Nat) (s : St) (hn : 0 < n1) :
    run c dt (n1 + n2) none s =
      match run c dt n1 none s with
      | .error e => .error e
      | .ok s' => run c dt n2 none s' := by
  obtain ⟨k, rfl⟩ : ∃ k, n1 = k + 1 := ⟨n1 - 1, by omega⟩
  rcases run_eq_loop c dt s with ⟨e, he⟩ | ⟨t0, s0, hr⟩
  · rw [he, he]
  · rw [hr, hr]; exact loop_then_run c dt t0 k n2 s0

/-- the loop over a grid, ended early by a stop condition after `k ≥ 1` of its `n` points and then continued
    over the remaining points, ends where the uninterrupted loop ends -/
theorem loop_stop_then_continue (c : Cfg) (dt : Q) (f : Rec → Bool) (t0 : Q) (n : Nat) (s s1 : St)
    (h : loop c dt (some f) (grid t0 dt n) s = .ok s1) :
    ∃ k, k ≤ n ∧ loop c dt none (grid t0 dt k) s = .ok s1 ∧
      loop c dt none (grid (t0 + (k : Q) * dt) dt (n - k)) s1 = loop c dt none (grid t0 dt n) s := by
  obtain ⟨k, hk, hpre, _⟩ := C16.loop_stop_steps c dt f t0 n s s1 h
  refine ⟨k, hk, hpre, ?_⟩
  conv_rhs => rw [← Nat.add_sub_cancel' hk, grid_append, loop_append, hpre]

/-- C12 with an early stop (continued runs): a run of `n` steps ended by a stop condition after `k ≥ 1` steps,
    then continued for the remaining `n − k` steps with the same time step, ends in the same state — records,
    time axis, live attributes, lock flag — as one uninterrupted run of `n` steps -/
theorem stop_then_continue (c : Cfg) (dt : Q) (f : Rec → Bool) (n : Nat) (s s1 : St) (t0 : Q)
    (hl : lastTime s = some t0) (h : run c dt n (some f) s = .ok s1) :
    ∃ k, k ≤ n ∧ s1.recs.length = s.recs.length + k ∧
      (0 < k → run c dt (n - k) none s1 = run c dt n none s) := by
  rw [run_continued hl] at h ⊢
  obtain ⟨k, hk, hpre, hcont⟩ := loop_stop_then_continue c dt f t0 n s s1 h
  refine ⟨k, hk, ?_, fun hpos => ?_⟩
  · simpa [grid_length] using congrArg List.length (loop_times c dt _ s s1 hpre)
  · obtain ⟨j, rfl⟩ : ∃ j, k = j + 1 := ⟨k - 1, by omega⟩
    rw [run_continued (loop_grid_lastTime hpre)]
    exact hcont

/-- the instants appended by a continuation do not depend on the unit `dt`, `T` and the previous
    final instant are expressed in: two unit-carrying descriptions with equal SI magnitudes give
    the same SI grid -/
theorem run_split_units {T : Tbl} (g : T.Good) (last last' : Option Qty) (dt dt' sim sim' : Qty)
    (hd : IsTime dt) (hd' : IsTime dt') (hs : IsTime sim) (hs' : IsTime sim')
    (hl : ∀ l, last = some l → IsTime l) (hl' : ∀ l, last' = some l → IsTime l)
    (e1 : siMag T dt = siMag T dt') (e2 : siMag T sim = siMag T sim')
    (e3 : last.map (siMag T) = last'.map (siMag T)) :
    (gridU T last dt sim).map (siMag T) = (gridU T last' dt' sim').map (siMag T) := by
  rw [gridU_si g last dt sim hd hl, gridU_si g last' dt' sim' hd' hl',
      nSteps_si g dt sim hd hs, nSteps_si g dt' sim' hd' hs', e1, e2, e3]

/-- the first `compute` of a run that starts from an empty history depends only on the last
    element's position and speed and — through the lock check and an absent controller — on the
    duty-cycle attribute -/
theorem compute_fresh_eq (c : Cfg) (s s' : St) (t : Q)
    (hr : s.recs = []) (hr' : s'.recs = []) (hp : s.pos = s'.pos) (hv : s.speed = s'.speed)
    (hl : s.locked = false) (hl' : s'.locked = false)
    (hpwm : s.pwm = s'.pwm ∨ (c.sl = false ∧ c.control.isSome = true)) :
    compute c s t = compute c s' t := by
  unfold compute
  simp only [hr, hr', hp, hv, hl, hl']
  rw [checkLock_unlocked (hpwm.imp id And.left) (torque' := s'.mtorque)]
  rcases hpwm with h | ⟨_, hc⟩
  · rw [h]
  · cases hcc : c.control with
    | none => simp [hcc] at hc
    | some f => rfl

/-- state of a powertrain after `reset` and re-application of the initial conditions -/
def afterReset (s : St) (p v : Q) : Except Err St :=
  match reset s with
  | .error e => .error e
  | .ok s1 => .ok { s1 with pos := p, speed := v }

/-- C12: after reset and re-applying the initial conditions, a schedule starting with a run
    reproduces what it produces from fresh objects (`St.init p v` with duty cycle `p0`) — same
    solver (`locked` arbitrary) or a new one -/
theorem rerun_eq (c : Cfg) (s sr : St) (p v p0 : Q) (dt : Q) (n : Nat) (stop) (rest : List Op)
    (hre : afterReset s p v = .ok sr)
    (hpwm : sr.pwm = p0 ∨ (c.sl = false ∧ c.control.isSome = true)) :
    exec c (Op.run dt n stop :: rest) sr = exec c (Op.run dt n stop :: rest) { St.init p v with pwm := p0 } := by
  obtain ⟨h1, h2, h3⟩ : sr.recs = [] ∧ sr.pos = p ∧ sr.speed = v := by
    unfold afterReset at hre
    cases hs : reset s with
    | error e => simp [hs] at hre
    | ok s1 =>
      obtain ⟨r, rs, _, rfl⟩ := reset_eq_ok.mp hs
      simp only [hs, Except.ok.injEq] at hre
      exact hre ▸ ⟨rfl, rfl, rfl⟩
  have e1 : lastTime sr = none := lastTime_eq_none.mpr h1
  have e2 : lastTime { St.init p v with pwm := p0 } = none := rfl
  simp only [exec, applyOp, run, e1, e2]
  rw [compute_fresh_eq c { sr with locked := false } { ({ St.init p v with pwm := p0 } : St) with locked := false } 0
    h1 rfl h2 h3 rfl rfl hpwm]

/-! ### K3: the proviso is necessary -/

/-- self-locking chain, controller commands `D = 0` from `t = 0`, initial speed 1 -/
def k3Cfg : Cfg :=
  { J0 := 1, links := [⟨30, 2/5, 1/2, true⟩], sl := true, tolW := 0, tolT := 0,
    motorTorque := fun w D => (1 - w / 100) * 2 * D, motorCurrent := fun _ _ => none,
    load := fun _ _ _ => 0, control := some fun _ => .ok 0 }

def firstSpeeds (r : Except Err St) : List Q :=
  match r with | .ok s => (s.recs.headD default).speed | .error _ => []

/-- the first run records the initial speed at `t = 0`; after reset + same initial conditions the
    rerun records `0` there (it starts held, because `reset` restored the commanded `D = 0`) -/
theorem K3_witness :
    firstSpeeds (exec k3Cfg [.run (1/4) 2 none] (St.init 0 1)) = [30, 1] ∧
    firstSpeeds (exec k3Cfg [.run (1/4) 2 none, .reset, .setInitial 0 1, .run (1/4) 2 none] (St.init 0 1)) = [0, 0] := by
  decide +kernel

def k3S1 : St := match exec k3Cfg [.run (1/4) 2 none] (St.init 0 1) with | .ok s => s | .error _ => default
def k3Sr : St := match afterReset k3S1 0 1 with | .ok s => s | .error _ => default

theorem K3_reset_ok : afterReset k3S1 0 1 = .ok k3Sr := by decide +kernel

theorem K3_differs :
    firstSpeeds (exec k3Cfg [.run (1/4) 2 none] k3Sr) ≠ firstSpeeds (exec k3Cfg [.run (1/4) 2 none] (St.init 0 1)) := by
  decide +kernel

/-- the full-strength statement (no proviso) is false of the model, hence of the code it mirrors -/
theorem rerun_full_false :
    ¬ (∀ (c : Cfg) (s sr : St) (p v p0 dt : Q) (n : Nat) (rest : List Op), afterReset s p v = .ok sr →
        exec c (Op.run dt n none :: rest) sr = exec c (Op.run dt n none :: rest) { St.init p v with pwm := p0 }) := by
  intro h
  apply K3_differs
  rw [h k3Cfg k3S1 k3Sr 0 1 1 (1/4) 2 [] K3_reset_ok]
  rfl

/-! ### non-vacuity of `rerun_eq`: an uncontrolled run, reset, rerun -/
example : (match afterReset ⟨[default], 3, 4, 5, none, 1, true⟩ 0 1 with | .ok s => s.recs.length | .error _ => 7) = 0 := by
  decide +kernel

end Gearpy.C12
