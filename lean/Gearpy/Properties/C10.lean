import Gearpy.Model.Relations
import Gearpy.Proofs.Units
import Mathlib.Tactic.Positivity
/-!
# C10 — declaring a mating or joint sets a consistent, validated relation

`declare h plan` = validation (`gearPlan` / `wormPlan` / `jointPlan`: pure, either rejects or
yields the attribute writes) followed by `writes`, each write going through its validating
setter.
* `gearPlan_eq_ok`, `wormPlan_eq_ok`, `jointPlan_eq_ok`: a validation succeeds exactly when every one of its
  tests passes, and then plans a fixed list of writes; `plan_ok`: every write of that list is accepted by its
  setter, and the only `drives` link it sets is master → slave.
* `rejected_unchanged`: a rejected declaration — of any of the three kinds — returns the heap
  exactly as it was: a declaration either fails in validation, before the first write (`run_error`), or carries
  out every planned write (`run_ok`).
  `declareAll_step`: this holds at every call of any sequence of declarations, failing ones included.
  (Before repair D4 `add_worm_gear_mating` linked, assigned roles, ratio and the self-locking flag
  and only then validated the efficiency.)
* post-conditions of an accepted call: `gear_post`, `worm_post`, `joint_post` — mutual links,
  roles, `ratio = z_slave / z_master` (wheel teeth / worm starts, or starts / teeth when the
  wheel drives; exactly 1 for a joint), the efficiency given or computed by the friction formula,
  the worm flagged self-locking exactly when `f > cos α · tan β`;
* `drives_eq_declared`: after any sequence of calls, failing ones included, the element an element drives is the
  slave of the last *accepted* call that named it as master (`declaredFollower`) — the chain is defined by the
  accepted calls alone;
* `accepted_ratio_pos`, `accepted_eff_range`;
* rejection of incompatible pairs: `gear_rejects`, `worm_rejects`, `joint_rejects`;
* the mathematics the code leaves implicit, `wormEff_range_master`, `wormEff_range_wheel`: the
  friction formula stays within [0, 1] exactly when `f·tan β ≤ cos α` (worm driving) resp.
  `f ≤ cos α · tan β` (wheel driving).
-/

namespace Gearpy.C10
open Gearpy

theorem not_outside_unit {x : Q} : ¬(1 < x ∨ x < 0) ↔ 0 ≤ x ∧ x ≤ 1 := by
  rw [not_or, not_lt, not_lt, and_comm]


/-- what the validating setter behind a write demands of the value -/
def Accepted : W → Prop
  | .ratio _ x => 0 < x
  | .eff _ x => 0 ≤ x ∧ x ≤ 1
  | _ => True

theorem write_ok_iff {h : Heap} {w : W} : (∃ h', write h w = .ok h') ↔ Accepted w := by
  cases w <;> simp only [write, Accepted, ite_error_eq_ok, not_outside_unit, not_le, Except.ok.injEq,
    exists_and_left, exists_eq', and_true]

/-- what a write does to element `j` -/
def effect (w : W) (j : Nat) (e : Elem) : Elem :=
  match w with
  | .drives i k => if i = j then { e with drives := some k } else e
  | .drivenBy i k => if i = j then { e with drivenBy := some k } else e
  | .role i r => if i = j then { e with role := some r } else e
  | .ratio i x => if i = j then { e with ratio := some x } else e
  | .eff i x => if i = j then { e with eff := x } else e
  | .selfLocking i b => if i = j then { e with selfLocking := some b } else e
  | .bendingKey i b => if i = j then { e with bendingKey := b } else e

theorem get_upd (h : Heap) (i j : Nat) (f : Elem → Elem) :
    (upd h i f)[j]? = (h[j]?).map (fun e => if i = j then f e else e) := by
  unfold upd; rw [List.getElem?_modify]; rfl

theorem write_get {h h' : Heap} {w : W} (hw : write h w = .ok h') (j : Nat) :
    h'[j]? = (h[j]?).map (effect w j) := by
  cases w
  case ratio | eff =>
    simp only [write, ite_error_eq_ok, Except.ok.injEq] at hw
    rw [← hw.2, get_upd]; rfl
  all_goals cases hw; rw [get_upd]; rfl

/-- accepted writes all take place; the heap after them, element by element -/
theorem writes_get (h : Heap) (ws : List W) (hall : ∀ w ∈ ws, Accepted w) :
    (writes h ws).2 = none ∧
      ∀ j, (writes h ws).1[j]? = (h[j]?).map (fun e => ws.foldl (fun e w => effect w j e) e) := by
  induction ws generalizing h with
  | nil => simp [writes]
  | cons w ws ih =>
    obtain ⟨h1, hw⟩ := (write_ok_iff (h := h)).mpr (hall w (by simp))
    obtain ⟨hn, hg⟩ := ih h1 (fun w' hm => hall w' (by simp [hm]))
    simp only [writes, hw]
    refine ⟨hn, fun j => ?_⟩
    rw [hg, write_get hw j]
    cases h[j]? <;> rfl

theorem effect_kind_teeth (w : W) (j : Nat) (e : Elem) :
    (effect w j e).kind = e.kind ∧ (effect w j e).teeth = e.teeth := by
  cases w <;> simp only [effect] <;> split <;> exact ⟨rfl, rfl⟩

theorem foldl_effect_kind_teeth (ws : List W) (j : Nat) (e : Elem) :
    (ws.foldl (fun e w => effect w j e) e).kind = e.kind ∧ (ws.foldl (fun e w => effect w j e) e).teeth = e.teeth := by
  induction ws generalizing e with
  | nil => exact ⟨rfl, rfl⟩
  | cons w ws ih => rw [List.foldl_cons, (ih _).1, (ih _).2]; exact effect_kind_teeth w j e

theorem effect_drives (w : W) (j : Nat) (e : Elem) :
    (effect w j e).drives = match w with | .drives i k => if i = j then some k else e.drives | _ => e.drives := by
  cases w <;> simp only [effect] <;> split <;> rfl


theorem gearPlan_eq_ok {T : Tbl} {h : Heap} {m s : Nat} {eta : Q} {ws : List W} :
    gearPlan T h m s eta = .ok ws ↔ ∃ em es, h[m]? = some em ∧ h[s]? = some es ∧
      isGearBase em.kind = true ∧ isGearBase es.kind = true ∧ m ≠ s ∧ (0 ≤ eta ∧ eta ≤ 1) ∧
      (¬ ∃ a b, em.module = some a ∧ es.module = some b ∧ qtyNe T a b = true) ∧
      hasHelix em.kind = hasHelix es.kind ∧
      (¬ ∃ a b, em.helix = some a ∧ es.helix = some b ∧
        hasHelix em.kind = true ∧ hasHelix es.kind = true ∧ qtyNe T a b = true) ∧
      ws = [.drives m s, .role m .master, .drivenBy s m, .role s .slave, .ratio s ((es.teeth : Q) / em.teeth),
            .eff s eta] := by
  unfold gearPlan
  split
  next em es hm hs =>
    simp only [hm, hs, ite_error_eq_ok, not_outside_unit, Bool.not_eq_true', Bool.not_eq_false, bne_iff_ne, ne_eq,
      not_not, Except.ok.injEq, Option.some.injEq, exists_and_left, exists_eq_left', eq_comm (a := ws)]
    -- the two sides now differ only in the tests on optional quantities: a `match` on the left, its meaning on the right
    congrm (_ ∧ _ ∧ _ ∧ _ ∧ ¬ ?_ ∧ _ ∧ ¬ ?_ ∧ _)
    · rcases em.module with _ | a <;> rcases es.module with _ | b <;> simp
    · rcases em.helix with _ | a <;> rcases es.helix with _ | b <;> simp [and_assoc]
  next hno => exact ⟨nofun, fun ⟨em, es, hm, hs, _⟩ => (hno em es hm hs).elim⟩

theorem wormPlan_eq_ok {T : Tbl} {h : Heap} {m s : Nat} {f : Q} {ws : List W} :
    wormPlan T h m s f = .ok ws ↔ ∃ em es, h[m]? = some em ∧ h[s]? = some es ∧
      isWorm em.kind = true ∧ isWorm es.kind = true ∧ em.kind ≠ es.kind ∧ (0 ≤ f ∧ f ≤ 1) ∧
      (¬ ∃ a b, em.pressure = some a ∧ es.pressure = some b ∧ qtyNe T a b = true) ∧ em.tanB ≠ 0 ∧
      (0 ≤ wormEff (em.kind == .wormGear) em.cosA em.tanB f ∧ wormEff (em.kind == .wormGear) em.cosA em.tanB f ≤ 1) ∧
      ws = [.drives m s, .role m .master, .drivenBy s m, .role s .slave, .ratio s ((es.teeth : Q) / em.teeth),
            .eff s (wormEff (em.kind == .wormGear) em.cosA em.tanB f),
            .selfLocking (if em.kind == .wormGear then m else s)
              (decide ((if em.kind == .wormGear then em else es).cosA * (if em.kind == .wormGear then em else es).tanB < f)),
            .bendingKey (if em.kind == .wormGear then s else m)
              (wormWheelBendingComputable (if em.kind == .wormGear then es else em).data
                (some (if em.kind == .wormGear then em else es).refDiam))] := by
  unfold wormPlan
  split
  next em es hm hs =>
    simp only [hm, hs, ite_error_eq_ok, not_outside_unit, Bool.not_eq_true', Bool.not_eq_false, beq_iff_eq, ne_eq,
      Except.ok.injEq, Option.some.injEq, exists_and_left, exists_eq_left', eq_comm (a := ws)]
    congrm (_ ∧ _ ∧ _ ∧ _ ∧ ¬ ?_ ∧ _)
    rcases em.pressure with _ | a <;> rcases es.pressure with _ | b <;> simp
  next hno => exact ⟨nofun, fun ⟨em, es, hm, hs, _⟩ => (hno em es hm hs).elim⟩

theorem jointPlan_eq_ok {h : Heap} {m s : Nat} {ws : List W} :
    jointPlan h m s = .ok ws ↔ ∃ em es, h[m]? = some em ∧ h[s]? = some es ∧ es.kind ≠ .motor ∧ m ≠ s ∧
      ws = [.drives m s, .drivenBy s m, .ratio s 1] := by
  unfold jointPlan
  split
  next em es hm hs =>
    simp only [hm, hs, ite_error_eq_ok, beq_iff_eq, ne_eq,
      Except.ok.injEq, Option.some.injEq, exists_and_left, exists_eq_left', eq_comm (a := ws)]
  next hno => exact ⟨nofun, fun ⟨em, es, hm, hs, _⟩ => (hno em es hm hs).elim⟩


def _root_.Gearpy.Decl.master : Decl → Nat | .gear m _ _ => m | .worm m _ _ => m | .joint m _ => m
def _root_.Gearpy.Decl.slave : Decl → Nat | .gear _ s _ => s | .worm _ s _ => s | .joint _ s => s

/-- the validation behind a declaration call -/
def _root_.Gearpy.Decl.plan (T : Tbl) (h : Heap) : Decl → Except Err (List W)
  | .gear m s eta => gearPlan T h m s eta
  | .worm m s f => wormPlan T h m s f
  | .joint m s => jointPlan h m s

theorem run_eq (T : Tbl) (h : Heap) (d : Decl) : d.run T h = declare h (d.plan T h) := by
  cases d <;> rfl

/-- every element of the heap has a positive teeth / starts number where it matters
    (constructors enforce `n_teeth ≥ 10`, `n_starts ≥ 1`) -/
def TeethPos (h : Heap) : Prop := ∀ (i : Nat) (e : Elem), h[i]? = some e → isGearBase e.kind = true ∨ isWorm e.kind = true → 0 < e.teeth

theorem ratio_pos {zm zs : Nat} (hm : 0 < zm) (hs : 0 < zs) : (0 : Q) < zs / zm :=
  div_pos (Nat.cast_pos.mpr hs) (Nat.cast_pos.mpr hm)

/-- What every accepted plan looks like: the master is in the heap, each planned write is accepted by its
    setter, and the only `drives` link written is master → slave. -/
theorem plan_ok {T : Tbl} {h : Heap} {d : Decl} {ws : List W} (hp : d.plan T h = .ok ws) (htp : TeethPos h) :
    (∃ em, h[d.master]? = some em) ∧ (∀ w ∈ ws, Accepted w) ∧
      ∀ j e, (ws.foldl (fun e w => effect w j e) e).drives = if d.master = j then some d.slave else e.drives := by
  cases d with
  | gear m s eta =>
    obtain ⟨em, es, hm, hs, gm, gs, -, hη, -, -, -, rfl⟩ := gearPlan_eq_ok.mp hp
    have hr := ratio_pos (htp m em hm (.inl gm)) (htp s es hs (.inl gs))
    -- acceptance write by write: only `ratio` and `eff` have a setter that can refuse
    refine ⟨⟨em, hm⟩, List.forall_iff_forall_mem.mp ⟨trivial, trivial, trivial, trivial, hr, hη⟩, fun j e => ?_⟩
    simp only [List.foldl_cons, List.foldl_nil, effect_drives]; rfl
  | worm m s f =>
    obtain ⟨em, es, hm, hs, gm, gs, -, -, -, -, hη, rfl⟩ := wormPlan_eq_ok.mp hp
    have hr := ratio_pos (htp m em hm (.inr gm)) (htp s es hs (.inr gs))
    refine ⟨⟨em, hm⟩, List.forall_iff_forall_mem.mp ⟨trivial, trivial, trivial, trivial, hr, hη, trivial, trivial⟩,
      fun j e => ?_⟩
    simp only [List.foldl_cons, List.foldl_nil, effect_drives]; rfl
  | joint m s =>
    obtain ⟨em, es, hm, -, -, -, rfl⟩ := jointPlan_eq_ok.mp hp
    refine ⟨⟨em, hm⟩, List.forall_iff_forall_mem.mp ⟨trivial, trivial, one_pos⟩, fun j e => ?_⟩
    simp only [List.foldl_cons, List.foldl_nil, effect_drives]; rfl

theorem run_error {T : Tbl} {h : Heap} {d : Decl} {e : Err} (hp : d.plan T h = .error e) :
    d.run T h = (h, some e) := by
  rw [run_eq, hp]; rfl

/-- an accepted plan is carried out in full: no error, and the new heap element by element -/
theorem declare_ok {h : Heap} {plan : Except Err (List W)} {ws : List W} (hp : plan = .ok ws)
    (hall : ∀ w ∈ ws, Accepted w) :
    (declare h plan).2 = none ∧
      ∀ j, (declare h plan).1[j]? = (h[j]?).map (fun e => ws.foldl (fun e w => effect w j e) e) := by
  subst hp; exact writes_get h ws hall

theorem run_ok {T : Tbl} {h : Heap} {d : Decl} {ws : List W} (hp : d.plan T h = .ok ws) (htp : TeethPos h) :
    (d.run T h).2 = none ∧
      ∀ j, (d.run T h).1[j]? = (h[j]?).map (fun e => ws.foldl (fun e w => effect w j e) e) := by
  rw [run_eq]; exact declare_ok hp (plan_ok hp htp).2.1

theorem rejected_unchanged (T : Tbl) (h : Heap) (d : Decl) (htp : TeethPos h) (e : Err)
    (hr : (d.run T h).2 = some e) : (d.run T h).1 = h := by
  cases hp : d.plan T h with
  | error e' => rw [run_error hp]
  | ok ws => rw [(run_ok hp htp).1] at hr; cases hr

/-- writes never change kinds or teeth numbers, so `TeethPos` survives every declaration -/
theorem run_teeth (T : Tbl) (h : Heap) (d : Decl) (htp : TeethPos h) : TeethPos (d.run T h).1 := by
  cases hp : d.plan T h with
  | error e => rw [run_error hp]; exact htp
  | ok ws =>
    intro j e hj hk
    rw [(run_ok hp htp).2 j, Option.map_eq_some_iff] at hj
    obtain ⟨e0, he0, rfl⟩ := hj
    obtain ⟨gk, gt⟩ := foldl_effect_kind_teeth ws j e0
    rw [gk] at hk; rw [gt]
    exact htp j e0 he0 hk

theorem declareAll_teeth (T : Tbl) (h : Heap) (ds : List Decl) (htp : TeethPos h) : TeethPos (declareAll T h ds) := by
  induction ds generalizing h with
  | nil => exact htp
  | cons d' ds ih => exact ih _ (run_teeth T h d' htp)

theorem declareAll_step (T : Tbl) (h : Heap) (ds₁ : List Decl) (d : Decl) (htp : TeethPos h) (e : Err)
    (hr : (d.run T (declareAll T h ds₁)).2 = some e) :
    (d.run T (declareAll T h ds₁)).1 = declareAll T h ds₁ :=
  rejected_unchanged T _ d (declareAll_teeth T h ds₁ htp) e hr


theorem gear_rejects (T : Tbl) (h : Heap) (m s : Nat) (eta : Q) (em es : Elem) (hm : h[m]? = some em) (hs : h[s]? = some es)
    (hbad : isGearBase em.kind = false ∨ isGearBase es.kind = false ∨ m = s ∨ 1 < eta ∨ eta < 0 ∨
            hasHelix em.kind ≠ hasHelix es.kind ∨
            (∃ a b, em.module = some a ∧ es.module = some b ∧ qtyNe T a b = true) ∨
            (∃ a b, em.helix = some a ∧ es.helix = some b ∧ hasHelix em.kind = true ∧ hasHelix es.kind = true ∧ qtyNe T a b = true)) :
    ∃ e, gearPlan T h m s eta = .error e := by
  refine exists_error_of_ne_ok fun ws hp => ?_
  obtain ⟨em', es', hm', hs', gm, gs, hne, hη, hmod, hhx, hang, -⟩ := gearPlan_eq_ok.mp hp
  cases hm.symm.trans hm'; cases hs.symm.trans hs'
  rcases hbad with hb | hb | hb | hb | hb | hb | hb | hb
  · exact Bool.false_ne_true (hb.symm.trans gm)
  · exact Bool.false_ne_true (hb.symm.trans gs)
  · exact hne hb
  · exact not_le.mpr hb hη.2
  · exact not_le.mpr hb hη.1
  · exact hb hhx
  · exact hmod hb
  · exact hang hb

theorem worm_rejects (T : Tbl) (h : Heap) (m s : Nat) (f : Q) (em es : Elem) (hm : h[m]? = some em) (hs : h[s]? = some es)
    (hbad : isWorm em.kind = false ∨ isWorm es.kind = false ∨ em.kind = es.kind ∨ 1 < f ∨ f < 0 ∨ em.tanB = 0 ∨
            (∃ a b, em.pressure = some a ∧ es.pressure = some b ∧ qtyNe T a b = true) ∨
            1 < wormEff (em.kind == .wormGear) em.cosA em.tanB f ∨ wormEff (em.kind == .wormGear) em.cosA em.tanB f < 0) :
    ∃ e, wormPlan T h m s f = .error e := by
  refine exists_error_of_ne_ok fun ws hp => ?_
  obtain ⟨em', es', hm', hs', gm, gs, hk, hf, hang, ht, hη, -⟩ := wormPlan_eq_ok.mp hp
  cases hm.symm.trans hm'; cases hs.symm.trans hs'
  rcases hbad with hb | hb | hb | hb | hb | hb | hb | hb | hb
  · exact Bool.false_ne_true (hb.symm.trans gm)
  · exact Bool.false_ne_true (hb.symm.trans gs)
  · exact hk hb
  · exact not_le.mpr hb hf.2
  · exact not_le.mpr hb hf.1
  · exact ht hb
  · exact hang hb
  · exact not_le.mpr hb hη.2
  · exact not_le.mpr hb hη.1

/-- the worm is flagged self-locking exactly when `f > cos α · tan β` (of the worm gear) -/
theorem worm_selfLocking_iff (cosA tanB f : Q) : decide (cosA * tanB < f) = true ↔ f > cosA * tanB := by simp

theorem joint_rejects (h : Heap) (m s : Nat) (es : Elem) (hs : h[s]? = some es)
    (hbad : es.kind = .motor ∨ m = s) : ∃ e, jointPlan h m s = .error e := by
  refine exists_error_of_ne_ok fun ws hp => ?_
  obtain ⟨-, es', -, hs', hk, hne, -⟩ := jointPlan_eq_ok.mp hp
  cases hs.symm.trans hs'
  exact hbad.elim hk hne


theorem gear_post (T : Tbl) (h : Heap) (m s : Nat) (eta : Q) (ws : List W) (hp : gearPlan T h m s eta = .ok ws)
    (htp : TeethPos h) :
    ∃ em es em' es', h[m]? = some em ∧ h[s]? = some es ∧ (addGearMating T h m s eta).2 = none ∧
      (addGearMating T h m s eta).1[m]? = some em' ∧ (addGearMating T h m s eta).1[s]? = some es' ∧
      em'.drives = some s ∧ em'.role = some .master ∧ es'.drivenBy = some m ∧ es'.role = some .slave ∧
      es'.ratio = some ((es.teeth : Q) / em.teeth) ∧ es'.eff = eta := by
  obtain ⟨hn, hg⟩ := run_ok (d := .gear m s eta) hp htp
  obtain ⟨em, es, hm, hs, -, -, hne, -, -, -, -, rfl⟩ := gearPlan_eq_ok.mp hp
  refine ⟨em, es, _, _, hm, hs, hn, (hg m).trans (by rw [hm]; rfl), (hg s).trans (by rw [hs]; rfl), ?_⟩
  simp [effect, hne, hne.symm]

theorem worm_post (T : Tbl) (h : Heap) (m s : Nat) (f : Q) (ws : List W) (hp : wormPlan T h m s f = .ok ws)
    (htp : TeethPos h) :
    ∃ em es em' es', h[m]? = some em ∧ h[s]? = some es ∧ (addWormGearMating T h m s f).2 = none ∧
      (addWormGearMating T h m s f).1[m]? = some em' ∧ (addWormGearMating T h m s f).1[s]? = some es' ∧
      em'.drives = some s ∧ em'.role = some .master ∧ es'.drivenBy = some m ∧ es'.role = some .slave ∧
      es'.ratio = some ((es.teeth : Q) / em.teeth) ∧
      es'.eff = wormEff (em.kind == .wormGear) em.cosA em.tanB f ∧
      (em.kind = .wormGear → em'.selfLocking = some (decide (em.cosA * em.tanB < f))) ∧
      (em.kind ≠ .wormGear → es'.selfLocking = some (decide (es.cosA * es.tanB < f))) := by
  obtain ⟨hn, hg⟩ := run_ok (d := .worm m s f) hp htp
  obtain ⟨em, es, hm, hs, -, -, hk, -, -, -, -, rfl⟩ := wormPlan_eq_ok.mp hp
  have hne : m ≠ s := by
    rintro rfl; exact hk (Option.some.inj (hm.symm.trans hs) ▸ rfl)
  refine ⟨em, es, _, _, hm, hs, hn, (hg m).trans (by rw [hm]; rfl), (hg s).trans (by rw [hs]; rfl), ?_⟩
  by_cases hw : em.kind = .wormGear <;> simp [effect, hne, hne.symm, hw]

theorem joint_post (h : Heap) (m s : Nat) (ws : List W) (hp : jointPlan h m s = .ok ws) (em : Elem) (hm : h[m]? = some em) :
    ∃ em' es', (addFixedJoint h m s).2 = none ∧
      (addFixedJoint h m s).1[m]? = some em' ∧ (addFixedJoint h m s).1[s]? = some es' ∧
      em'.drives = some s ∧ es'.drivenBy = some m ∧ es'.ratio = some 1 := by
  obtain ⟨-, es, -, hs, -, hne, rfl⟩ := jointPlan_eq_ok.mp hp
  obtain ⟨hn, hg⟩ := declare_ok (h := h) hp (by simp [Accepted])
  refine ⟨_, _, hn, (hg m).trans (by rw [hm]; rfl), (hg s).trans (by rw [hs]; rfl), ?_⟩
  simp [effect, hne, hne.symm]

/-! ### the forward links are those of the accepted declarations

`drives_eq_declared`: after any sequence of declaration calls (failing ones included), the element an element
drives is the slave of the **last accepted** call that named it as master — or the one it drove before, if no
call did.  Back-links play no role (`C20.chain_ignores_backlinks`), so the chain a powertrain is assembled from
is determined by the accepted calls alone. -/

/-- follower of `i` as the accepted declarations define it (`cur`: the follower it has so far) -/
def declaredFollower (T : Tbl) : Heap → List Decl → Nat → Option Nat → Option Nat
  | _, [], _, cur => cur
  | h, d :: ds, i, cur =>
    declaredFollower T (d.run T h).1 ds i
      (if (d.run T h).2 = none ∧ d.master = i then some d.slave else cur)

def drivesOf (h : Heap) (i : Nat) : Option Nat := (h[i]?).bind (·.drives)

theorem run_drives (T : Tbl) (h : Heap) (d : Decl) (htp : TeethPos h) (j : Nat) :
    drivesOf (d.run T h).1 j =
      if (d.run T h).2 = none ∧ d.master = j then some d.slave else drivesOf h j := by
  cases hp : d.plan T h with
  | error e => rw [run_error hp]; simp
  | ok ws =>
    obtain ⟨hn, hg⟩ := run_ok hp htp
    obtain ⟨⟨em, hm⟩, -, hd⟩ := plan_ok hp htp
    unfold drivesOf
    rw [hn, hg j]
    cases hj : h[j]? with
    | none =>
      have : d.master ≠ j := by rintro rfl; rw [hm] at hj; cases hj
      simp [this]
    | some e => simp [hd]

/-- C10/C20: after any sequence of declaration calls, failing ones included, the element that `i` drives is the
    slave of the last accepted call naming `i` as master (or the one it drove before the sequence) -/
theorem drives_eq_declared (T : Tbl) (h : Heap) (ds : List Decl) (htp : TeethPos h) (i : Nat) :
    drivesOf (declareAll T h ds) i = declaredFollower T h ds i (drivesOf h i) := by
  induction ds generalizing h with
  | nil => rfl
  | cons d ds ih =>
    simp only [declareAll, declaredFollower]
    rw [ih (d.run T h).1 (run_teeth T h d htp), run_drives T h d htp i]

theorem accepted_ratio_pos (h h' : Heap) (i : Nat) (x : Q) (hw : write h (.ratio i x) = .ok h') : 0 < x :=
  write_ok_iff.mp ⟨h', hw⟩

theorem accepted_eff_range (h h' : Heap) (i : Nat) (x : Q) (hw : write h (.eff i x) = .ok h') : 0 ≤ x ∧ x ≤ 1 :=
  write_ok_iff.mp ⟨h', hw⟩


theorem div_mem_unit_iff {a b : Q} (hb : 0 < b) (hab : a ≤ b) : (0 ≤ a / b ∧ a / b ≤ 1) ↔ 0 ≤ a := by
  rw [le_div_iff₀ hb, zero_mul, div_le_one hb]
  exact and_iff_left hab

/-- worm driving (`0 < cos α`, `0 < tan β`, `0 ≤ f`): efficiency within [0,1] iff `f·tan β ≤ cos α` -/
theorem wormEff_range_master (c t f : Q) (hc : 0 < c) (ht : 0 < t) (hf : 0 ≤ f) :
    (0 ≤ wormEff true c t f ∧ wormEff true c t f ≤ 1) ↔ f * t ≤ c := by
  have h1 : 0 ≤ f * t := mul_nonneg hf ht.le
  have h2 : 0 ≤ f / t := div_nonneg hf ht.le
  simp only [wormEff, if_true]
  rw [div_mem_unit_iff (add_pos_of_pos_of_nonneg hc h2) ((sub_le_self c h1).trans (le_add_of_nonneg_right h2)),
    sub_nonneg]

/-- wheel driving: efficiency within [0,1] iff `f ≤ cos α · tan β` — with equal angles on wheel and
    worm, a wheel can drive a worm only if the pair is not self-locking -/
theorem wormEff_range_wheel (c t f : Q) (hc : 0 < c) (ht : 0 < t) (hf : 0 ≤ f) :
    (0 ≤ wormEff false c t f ∧ wormEff false c t f ≤ 1) ↔ f ≤ c * t := by
  have h1 : 0 ≤ f * t := mul_nonneg hf ht.le
  have h2 : 0 ≤ f / t := div_nonneg hf ht.le
  simp only [wormEff, Bool.false_eq_true, if_false]
  rw [div_mem_unit_iff (add_pos_of_pos_of_nonneg hc h1) ((sub_le_self c h2).trans (le_add_of_nonneg_right h1)),
    sub_nonneg, div_le_iff₀ ht]

/-! ### non-vacuity: the D4 input (α = 30°, β = 45°, f = 1) is rejected and leaves the heap untouched -/
def wormEx : Heap :=
  [ { kind := .wormGear, name := 0, teeth := 1, cosA := 866/1000, tanB := 1 },
    { kind := .wormWheel, name := 1, teeth := 30, cosA := 866/1000, tanB := 1 } ]
def T0 : Tbl := { f := fun _ _ => 1, si := fun _ => 0, tol := 1/1000000000000 }
example : addWormGearMating T0 wormEx 0 1 1 = (wormEx, some .valueE) := by decide +kernel
example : (addWormGearMating T0 wormEx 0 1 (1/10)).2 = none := by decide +kernel

end Gearpy.C10
