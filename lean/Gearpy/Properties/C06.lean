import Gearpy.Proofs.Units
/-!
# C06 — quantity arithmetic is dimensionally sound; subtraction undoes addition

* `spec` is the table of results dictated by dimensional analysis, written from the property
  statement; `dim` is the independent dimension-vector cross-check (`spec_dim_consistent`).
* `add_kind`, `sub_kind`, `mul_kind`, `div_kind`: whatever a binary operation *returns* has the
  dictated kind (a cell the spec forbids can only raise: `binop_forbidden`).
* `add_si`, `mul_si`, `div_si`: the SI magnitude of the result is the sum / product / quotient
  of the operands' SI magnitudes, for every unit choice.
* `sub_si_partial`: the same for `−`, **excluding exactly** the two call sites
  `Angle − AngularPosition` and `TimeInterval − Time`, which add (known finding K2; `sub_si` covers them too):
  the full statement `sub_si_full` is false of the code, `sub_adds_witness` and
  `sub_si_full_false` prove it with `Angle 5 rad − AngularPosition 2 rad = 7 rad`.
* `qty_add_sub_cancel` ((a+b)−b = a) and `sub_antisymm` (a−b = −(b−a)).
-/

namespace Gearpy.C06
open Gearpy Gearpy.Kind

variable {T : Tbl}

/-- result kinds: a quantity kind or a plain number -/
inductive RK | k (k : Kind) | num deriving DecidableEq, Repr
inductive OpK | add | sub | mul | div deriving DecidableEq, Repr
inductive VK | k (k : Kind) | num deriving DecidableEq, Repr

/-- the results dictated by dimensional analysis (from the property statement) -/
def spec : OpK → Kind → VK → Option RK
  | .add, a, .k b | .sub, a, .k b =>
      if a = b then some (.k a) else if baseOf a = baseOf b then some (.k (baseOf a)) else none
  | .add, _, .num | .sub, _, .num => none
  | .mul, a, .num => some (.k a)
  | .mul, a, .k b =>
      if (baseOf a = time ∧ b = angSpeed) ∨ (a = angSpeed ∧ baseOf b = time) then some (.k angPos)
      else if (baseOf a = time ∧ b = angAcc) ∨ (a = angAcc ∧ baseOf b = time) then some (.k angSpeed)
      else if a = length ∧ b = length then some (.k surface) else none
  | .div, a, .num => some (.k a)
  | .div, a, .k b =>
      if baseOf a = baseOf b then some .num
      else if a = torque ∧ b = inertia then some (.k angAcc)
      else if a = torque ∧ b = length then some (.k force)
      else if a = force ∧ b = surface then some (.k stress) else none

/-- dimension vectors (angle, time, mass, length, current) of the kinds -/
def dim : Kind → List Int
  | angPos | angle => [1, 0, 0, 0, 0]
  | angSpeed => [1, -1, 0, 0, 0]
  | angAcc => [1, -2, 0, 0, 0]
  | time | timeInt => [0, 1, 0, 0, 0]
  | inertia => [0, 0, 1, 2, 0]          -- kg m²  (per radian²: angles are dimensionless in torque = J·α)
  | torque => [1, -2, 1, 2, 0]          -- N m = kg m² s⁻² (× rad, so that torque / inertia = rad s⁻²)
  | length => [0, 0, 0, 1, 0]
  | surface => [0, 0, 0, 2, 0]
  | force => [1, -2, 1, 1, 0]           -- torque / length
  | stress => [1, -2, 1, -1, 0]         -- force / surface
  | current => [0, 0, 0, 0, 1]

def dimRK : RK → List Int | .k k => dim k | .num => [0, 0, 0, 0, 0]
def dimVK : VK → List Int | .k k => dim k | .num => [0, 0, 0, 0, 0]
def allKinds : List Kind := [angPos, angle, angSpeed, angAcc, inertia, torque, time, timeInt, length, surface, force, stress, current]
def allVK : List VK := VK.num :: allKinds.map VK.k

def cellOk (op : OpK) (a : Kind) (b : VK) : Bool :=
  match spec op a b with
  | none => true
  | some r => match op with
    | .add | .sub => dimRK r == dim a && dimVK b == dim a
    | .mul => dimRK r == List.zipWith (· + ·) (dim a) (dimVK b)
    | .div => dimRK r == List.zipWith (· - ·) (dim a) (dimVK b)

/-- the spec table is dimensionally consistent: sums keep the dimension, products add, quotients subtract -/
theorem spec_dim_consistent :
    ∀ op ∈ [OpK.add, .sub, .mul, .div], ∀ a ∈ allKinds, ∀ b ∈ allVK, cellOk op a b = true := by
  decide +kernel

def vk : Val → VK | .q x => .k x.kind | .n _ => .num
def rk : Val → RK | .q x => .k x.kind | .n _ => .num
/-- SI magnitude of a right operand -/
def valSI (T : Tbl) : Val → Q | .q o => siMag T o | .n x => x
def binop (T : Tbl) : OpK → Qty → Val → Except Err Val
  | .add => add T | .sub => sub T | .mul => mul T | .div => div T

/-- both `+` and `−` (the left-hand side is their clause of `spec`): the result has the receiver's kind, or the
    family's base kind when the kinds differ -/
theorem addSub_kind {f : Err → Err} {a o : Qty} {v w : Q} {r : Val} (h : addSub f a o v w = .ok r) :
    (if a.kind = o.kind then some (RK.k a.kind)
     else if baseOf a.kind = baseOf o.kind then some (.k (baseOf a.kind)) else none) = some (rk r) := by
  obtain ⟨hf, -, hr⟩ := addSub_eq_ok.mp h
  by_cases he : a.kind = o.kind
  · rw [if_neg fun hK => hK.2 he.symm] at hr; rw [if_pos he, hr]; rfl
  · rw [if_neg he, if_pos hf]
    by_cases hs : isSub a.kind = true
    · rw [if_pos ⟨hs, Ne.symm he⟩] at hr; rw [hr.2]; rfl
    · rw [if_neg fun hK => hs hK.1] at hr
      rw [hr, baseOf_of_not_sub (Bool.not_eq_true _ ▸ hs)]; rfl

theorem add_kind (T : Tbl) (a : Qty) (b r : Val) (h : add T a b = .ok r) :
    spec .add a.kind (vk b) = some (rk r) := by
  cases b with
  | n x => cases h
  | q o => exact addSub_kind (add_eq_addSub a o ▸ h)

theorem sub_kind (T : Tbl) (a : Qty) (b r : Val) (h : sub T a b = .ok r) :
    spec .sub a.kind (vk b) = some (rk r) := by
  cases b with
  | n x => cases h
  | q o => exact addSub_kind (sub_eq_addSub a o ▸ h)

theorem spec_mulKind {a b k : Kind} (h : mulKind a b = some k) : spec .mul a (.k b) = some (.k k) := by
  unfold mulKind at h
  split at h <;> cases h <;> rfl

theorem spec_divKind {a b k : Kind} (h : divKind a b = some k) : spec .div a (.k b) = some (.k k) := by
  unfold divKind at h
  split at h <;> cases h <;> rfl

theorem mul_kind (T : Tbl) (a : Qty) (b r : Val) (h : mul T a b = .ok r) :
    spec .mul a.kind (vk b) = some (rk r) := by
  cases b with
  | n x => obtain ⟨-, -, -, rfl⟩ := mul_num_eq_ok.mp h; rfl
  | q o => obtain ⟨k, hk, -, rfl⟩ := mul_qty_eq_ok.mp h; exact spec_mulKind hk

theorem div_kind (T : Tbl) (a : Qty) (b r : Val) (h : div T a b = .ok r) :
    spec .div a.kind (vk b) = some (rk r) := by
  cases b with
  | n x => obtain ⟨-, -, rfl⟩ := div_num_eq_ok.mp h; rfl
  | q o =>
    obtain ⟨-, hr⟩ := div_qty_eq_ok.mp h
    split at hr
    · rename_i hf; rw [hr]; exact if_pos hf
    · obtain ⟨k, hk, -, rfl⟩ := hr; exact spec_divKind hk

/-- C06 (kinds): whatever a binary operation returns has the kind dimensional analysis dictates -/
theorem binop_kind (T : Tbl) (op : OpK) (a : Qty) (b r : Val) (h : binop T op a b = .ok r) :
    spec op a.kind (vk b) = some (rk r) := by
  cases op
  · exact add_kind T a b r h
  · exact sub_kind T a b r h
  · exact mul_kind T a b r h
  · exact div_kind T a b r h

theorem binop_forbidden (T : Tbl) (op : OpK) (a : Qty) (b : Val) (hs : spec op a.kind (vk b) = none) :
    ∃ e, binop T op a b = .error e := by
  cases hb : binop T op a b with
  | error e => exact ⟨e, rfl⟩
  | ok r => have := binop_kind T op a b r hb; rw [hs] at this; simp at this

theorem addSub_si (g : T.Good) {f : Err → Err} {a o r : Qty} {v w : Q} (h : addSub f a o v w = .ok (.q r)) :
    siMag T r = (if isSub a.kind = true ∧ o.kind ≠ a.kind then w else v) * T.f a.kind a.unit := by
  obtain ⟨-, -, hr⟩ := addSub_eq_ok.mp h
  split at hr
  · obtain ⟨-, hr⟩ := hr; cases hr; rw [if_pos ‹_›, g.fam a.kind]; rfl
  · cases hr; rw [if_neg ‹_›]; rfl

theorem add_si (g : T.Good) (a o r : Qty) (h : add T a (.q o) = .ok (.q r)) :
    siMag T r = siMag T a + siMag T o := by
  rw [add_eq_addSub] at h
  rw [addSub_si g h, ite_self, add_mul, conv_mul_fam g (addSub_eq_ok.mp h).1]; rfl

/-- the two call sites whose subtraction adds (K2) -/
def K2cell (a o : Kind) : Prop := isSub a = true ∧ o ≠ a

/-- SI magnitude of a difference: the sum of the magnitudes in the two cells of K2, their difference elsewhere -/
theorem sub_si (g : T.Good) (a o r : Qty) (h : sub T a (.q o) = .ok (.q r)) :
    (K2cell a.kind o.kind → siMag T r = siMag T a + siMag T o) ∧
    (¬ K2cell a.kind o.kind → siMag T r = siMag T a - siMag T o) := by
  rw [sub_eq_addSub] at h
  have hc := conv_mul_fam g (addSub_eq_ok.mp h).1 a.unit
  constructor <;> intro hK <;> unfold K2cell at hK
  · rw [addSub_si g h, if_pos hK, add_mul, hc]; rfl
  · rw [addSub_si g h, if_neg hK, sub_mul, hc]; rfl

theorem sub_si_partial (g : T.Good) (a o r : Qty) (hK2 : ¬ K2cell a.kind o.kind)
    (h : sub T a (.q o) = .ok (.q r)) : siMag T r = siMag T a - siMag T o :=
  (sub_si g a o r h).2 hK2

/-- the statement at full strength (false of the code, see `sub_si_full_false`) -/
def sub_si_full (T : Tbl) : Prop :=
  ∀ a o r : Qty, sub T a (.q o) = .ok (.q r) → siMag T r = siMag T a - siMag T o

/-- K2 witness: Angle − AngularPosition adds -/
theorem sub_adds_witness (T : Tbl) :
    sub T ⟨angle, 5, 0⟩ (.q ⟨angPos, 2, 0⟩) = .ok (.q ⟨angPos, 7, 0⟩) := by
  simp [sub, sameFamily, baseOf, isSub, conv, mk, signOk, Except.map]; norm_num

theorem sub_adds_witness_time (T : Tbl) :
    sub T ⟨timeInt, 5, 0⟩ (.q ⟨time, 2, 0⟩) = .ok (.q ⟨time, 7, 0⟩) := by
  simp [sub, sameFamily, baseOf, isSub, conv, mk, signOk, Except.map]; norm_num

theorem sub_si_full_false (g : T.Good) : ¬ sub_si_full T := by
  intro h
  have := h _ _ _ (sub_adds_witness T)
  have hp := g.pos angPos 0
  have hf : T.f angle 0 = T.f angPos 0 := g.fam angle 0
  simp only [siMag, hf] at this
  linarith

theorem siMag_si (g : T.Good) (k : Kind) (v : Q) : siMag T ⟨k, v, T.si k⟩ = v := by
  rw [siMag, g.si1, mul_one]

theorem mul_si (g : T.Good) (a : Qty) (b : Val) (r : Qty) (h : mul T a b = .ok (.q r)) :
    siMag T r = siMag T a * valSI T b := by
  cases b with
  | n x => obtain ⟨-, -, -, hr⟩ := mul_num_eq_ok.mp h; cases hr; exact mul_right_comm _ _ _
  | q o => obtain ⟨k, -, -, hr⟩ := mul_qty_eq_ok.mp h; cases hr; rw [siMag_si g, toSI_eq g, toSI_eq g]; rfl

theorem div_si (g : T.Good) (a : Qty) (b : Val) (r : Qty) (h : div T a b = .ok (.q r)) :
    siMag T r = siMag T a / valSI T b := by
  cases b with
  | n x => obtain ⟨-, -, hr⟩ := div_num_eq_ok.mp h; cases hr; exact div_mul_eq_mul_div _ _ _
  | q o =>
    obtain ⟨-, hr⟩ := div_qty_eq_ok.mp h
    split at hr
    · cases hr
    · obtain ⟨k, -, -, hr⟩ := hr; cases hr; rw [siMag_si g, toSI_eq g, toSI_eq g]; rfl

/-- C06: a same-family quotient is the plain ratio of the SI magnitudes -/
theorem div_num_si (g : T.Good) (a o : Qty) (x : Q) (h : div T a (.q o) = .ok (.n x)) :
    x = siMag T a / siMag T o := by
  obtain ⟨-, hr⟩ := div_qty_eq_ok.mp h
  split at hr
  · rename_i hf; cases hr
    rw [← conv_mul_fam g hf a.unit, siMag, mul_div_mul_right _ _ (g.pos _ _).ne']
  · obtain ⟨k, -, -, hr⟩ := hr; cases hr

/-- … hence a quotient of two non-null quantities is never 0, however small the ratio, and it gives the dividend
    back when multiplied by the divisor's magnitude (no snapping to a nearby integer) -/
theorem div_num_ne_zero (g : T.Good) (a o : Qty) (x : Q) (h : div T a (.q o) = .ok (.n x))
    (ha : a.value ≠ 0) (ho : o.value ≠ 0) : x ≠ 0 ∧ x * siMag T o = siMag T a := by
  have hx := div_num_si g a o x h
  have hpa : siMag T a ≠ 0 := mul_ne_zero ha (ne_of_gt (g.pos a.kind a.unit))
  have hpo : siMag T o ≠ 0 := mul_ne_zero ho (ne_of_gt (g.pos o.kind o.unit))
  refine ⟨?_, ?_⟩
  · rw [hx]; exact div_ne_zero hpa hpo
  · rw [hx]; field_simp

/-- with operands of one kind neither `+` nor `−` leaves the receiver's class -/
theorem addSub_same_kind {f : Err → Err} {a o r : Qty} {v w : Q} (hk : o.kind = a.kind)
    (h : addSub f a o v w = .ok (.q r)) : r = ⟨a.kind, v, a.unit⟩ := by
  obtain ⟨-, -, hr⟩ := addSub_eq_ok.mp h
  rw [if_neg fun hK => hK.2 hk] at hr
  exact Val.q.inj hr

theorem qty_add_sub_cancel (a o s : Qty) (hk : o.kind = a.kind)
    (h1 : add T a (.q o) = .ok (.q s)) (r : Qty) (h2 : sub T s (.q o) = .ok (.q r)) : r = a := by
  cases addSub_same_kind hk (add_eq_addSub a o ▸ h1)
  cases addSub_same_kind hk (sub_eq_addSub _ o ▸ h2)
  exact congrArg (Qty.mk a.kind · a.unit) (add_sub_cancel_right _ _)

theorem sub_antisymm (g : T.Good) (a o r1 r2 r3 : Qty)
    (hK1 : ¬ K2cell a.kind o.kind) (hK2 : ¬ K2cell o.kind a.kind)
    (h1 : sub T a (.q o) = .ok (.q r1)) (h2 : sub T o (.q a) = .ok (.q r2)) (h3 : neg r2 = .ok r3) :
    siMag T r1 = siMag T r3 := by
  obtain ⟨-, rfl⟩ := mk_eq_ok.mp h3
  rw [sub_si_partial g a o r1 hK1 h1, ← neg_sub, ← sub_si_partial g o a r2 hK2 h2]
  exact (neg_mul _ _).symm

/-! ### non-vacuity: the hypotheses are met by concrete quantities -/

example : add T ⟨torque, 3, 0⟩ (.q ⟨torque, 4, 0⟩) = .ok (.q ⟨torque, 7, 0⟩) := by
  simp [add, sameFamily, baseOf, isSub, conv, mk, signOk]; norm_num
example : ¬ K2cell torque torque := by simp [K2cell, isSub]
example : K2cell angle angPos := by simp [K2cell, isSub]

end Gearpy.C06
