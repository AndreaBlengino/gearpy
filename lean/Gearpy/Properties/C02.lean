import Gearpy.Proofs.Solver
import Mathlib.Tactic.FieldSimp
/-!
# C02 — torque propagation and balance along the chain at every instant

For every configuration, **every load function** `load : position → speed → time → torque`,
every motor characteristic, every controller and every list of schedule operations, each
recorded instant satisfies:
* the motor's driving torque is its characteristic at the recorded motor speed and duty cycle;
* each following element's driving torque is its driver's times efficiency times ratio;
* the last element's load torque is `load` at that element's recorded position and speed and at
  that instant's time;
* each upstream load torque is its follower's divided by efficiency and ratio
  (`LoadOK`; `load_mul` gives the division-free form under `η, r ≠ 0` — the code raises
  `ZeroDivisionError` at `η = 0`, Lean's `x / 0 = 0` is never relied upon);
* net torque = driving − load, element by element;
* `stage_power` / `chain_power`: with C01, the driving power leaving a stage is the power entering it times the
  stage's efficiency, and end to end the product of the efficiencies — at every recorded instant of every history.
-/

namespace Gearpy.C02
open Gearpy

theorem C02 (c : Cfg) (ops : List Op) (p v : Q) (s' : St)
    (he : exec c ops (St.init p v) = .ok s') :
    ∀ r ∈ s'.recs,
      r.dtorque.head? = some (c.motorTorque (r.speed.headD 0) r.pwm) ∧
      DriveOK c.links r.dtorque ∧
      r.ltorque.getLast? = some (c.load (lastD r.pos) (lastD r.speed) r.time) ∧
      LoadOK c.links r.ltorque ∧
      r.torque = List.zipWith (· - ·) r.dtorque r.ltorque := by
  intro r hr
  have h := records_ok he r hr
  exact ⟨h.drive0, h.drive, h.loadLast, h.load, h.net⟩

/-- the recorded current is the motor's current law at the recorded duty cycle and driving torque -/
theorem C02_current (c : Cfg) (ops : List Op) (p v : Q) (s' : St)
    (he : exec c ops (St.init p v) = .ok s') :
    ∀ r ∈ s'.recs, r.current = c.motorCurrent r.pwm (r.dtorque.headD 0) :=
  fun r hr => (records_ok he r hr).cur

theorem load_mul {ls : List Link} {xs : List Q} (h : LoadOK ls xs)
    (hnz : ∀ l ∈ ls, l.eff ≠ 0 ∧ l.ratio ≠ 0) :
    xs.length = ls.length + 1 ∧ ∀ i (hi : i < ls.length) (hj : i + 1 < xs.length),
      xs[i]'(by omega) * ls[i].eff * ls[i].ratio = xs[i+1] := by
  obtain ⟨hl, hg⟩ := load_get h
  refine ⟨hl, fun i hi hj => ?_⟩
  obtain ⟨he, hr⟩ := hnz ls[i] (List.getElem_mem hi)
  rw [hg i hi hj]; field_simp

theorem net_get (r : Rec) (h : r.torque = List.zipWith (· - ·) r.dtorque r.ltorque) (i : Nat)
    (h1 : i < r.dtorque.length) (h2 : i < r.ltorque.length) :
    r.torque[i]? = some (r.dtorque[i] - r.ltorque[i]) := by
  rw [h]; simp [List.getElem?_zipWith, List.getElem?_eq_getElem h1, List.getElem?_eq_getElem h2]

/-- C02 along schedules whose configuration changes between runs (`execSeg`): every surviving record
    obeys the torque laws of the configuration of one of the segments — the one in force when it was
    recorded (its motor law, its links, its load function) -/
theorem C02_segments (sl : Bool) (all : List Cfg) (segs : List (Cfg × List Op)) (p v : Q) (s' : St)
    (hall : ∀ seg ∈ segs, seg.1 ∈ all ∧ seg.1.sl = sl) (he : execSeg segs (St.init p v) = .ok s') :
    ∀ r ∈ s'.recs, ∃ c ∈ all,
      r.dtorque.head? = some (c.motorTorque (r.speed.headD 0) r.pwm) ∧ DriveOK c.links r.dtorque ∧
      r.ltorque.getLast? = some (c.load (lastD r.pos) (lastD r.speed) r.time) ∧ LoadOK c.links r.ltorque ∧
      r.torque = List.zipWith (· - ·) r.dtorque r.ltorque := by
  intro r hr
  obtain ⟨c, hc, hok⟩ := segment_records_ok hall he r hr
  exact ⟨c, hc, hok.drive0, hok.drive, hok.loadLast, hok.load, hok.net⟩

/-! ### non-vacuity -/
def exCfg : Cfg :=
  { J0 := 1, links := [⟨2, 9/10, 1/2, true⟩, ⟨3, 4/5, 1/4, true⟩], sl := false, tolW := 0, tolT := 0,
    motorTorque := fun w D => (1 - w / 100) * 2 * D, motorCurrent := fun _ _ => none,
    load := fun p v t => 1/10 + p / 100 + v / 50 + t / 7, control := none }
example : (match exec exCfg [.run (1/4) 3 none] (St.init 0 1) with
    | .ok s => s.recs.map (·.ltorque.length) | .error _ => []) = [3, 3, 3, 3] := by decide +kernel

/-- **Power balance of every stage** (C01 and C02 together): the driving power leaving stage `i` is the driving power
    entering it times the stage's efficiency — `d_{i+1}·ω_{i+1} = η_{i+1}·(d_i·ω_i)` — at every recorded instant of
    every history, whatever the ratio.  A torque law with the ratio on the wrong side, or a speed law with the inverse
    ratio, breaks this identity even where each looks plausible alone. -/
theorem stage_power (c : Cfg) (ops : List Op) (p v : Q) (s' : St)
    (he : exec c ops (St.init p v) = .ok s') :
    ∀ r ∈ s'.recs, ∀ i (hi : i < c.links.length) (hd : i + 1 < r.dtorque.length) (hw : i + 1 < r.speed.length),
      r.dtorque[i+1] * r.speed[i+1] = c.links[i].eff * (r.dtorque[i]'(by omega) * r.speed[i]'(by omega)) := by
  intro r hr i hi hd hw
  have h := records_ok he r hr
  have h1 := (drive_get h.drive).2 i hi hd
  have h2 := (coupled_get h.speed).2 i (by simpa using hi) hw
  simp only [List.getElem_map] at h2
  rw [h1, h2]; ring

/-- end to end: the driving power at the last element is the motor's driving power times the product of the
    efficiencies of the stages in between (stated for the first `k` stages) -/
theorem chain_power (c : Cfg) (ops : List Op) (p v : Q) (s' : St)
    (he : exec c ops (St.init p v) = .ok s') :
    ∀ r ∈ s'.recs, ∀ k (hk : k ≤ c.links.length) (hd : k < r.dtorque.length) (hw : k < r.speed.length),
      r.dtorque[k] * r.speed[k] =
        ((c.links.take k).map (·.eff)).prod * (r.dtorque[0]'(by omega) * r.speed[0]'(by omega)) := by
  intro r hr k
  induction k with
  | zero => intro _ _ _; simp
  | succ k ih =>
    intro hk hd hw
    have hs := stage_power c ops p v s' he r hr k (by omega) hd hw
    have := ih (by omega) (by omega) (by omega)
    rw [hs, this, List.take_add_one]
    simp only [List.getElem?_eq_getElem (show k < c.links.length by omega), Option.toList_some, List.map_append,
      List.map_cons, List.map_nil, List.prod_append, List.prod_cons, List.prod_nil]
    ring

/-- non-vacuity: in the example run the power at the last element is `9/10 · 4/5` of the motor's at every instant -/
example : (match exec exCfg [.run (1/4) 3 none] (St.init 0 1) with
    | .ok s => s.recs.all (fun (r : Rec) =>
        decide ((r.dtorque.getD 2 0) * (r.speed.getD 2 0) = 9/10 * (4/5) * ((r.dtorque.getD 0 0) * (r.speed.getD 0 0))
          ∧ r.speed.getD 0 0 ≠ 0 ∧ r.dtorque.getD 0 0 ≠ 0))
    | .error _ => false) = true := by decide +kernel

end Gearpy.C02
