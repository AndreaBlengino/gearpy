import Gearpy.Model.Motor
import Gearpy.Proofs.Units
import Mathlib.Algebra.Order.Field.Basic
import Mathlib.Tactic.Ring
/-!
# C08 — DC motor torque and current follow the documented characteristic

For every motor with `0 < ω₀`, `0 < T_max`, `0 ≤ i₀ < i_max` (`MotorP.Good`, exactly what the
constructor accepts), every speed `ω` of either sign and every duty cycle `D`:
* `torque_no_data`: without current data, `T = T_max (1 − ω/ω₀)` for every `D`;
* `torque_deadzone`: `|D| ≤ i₀/i_max ⇒ T = 0` exactly; `current_deadzone`: there `i = D·i_max`;
* `torque_pos` / `torque_neg`: outside, `T = T_max(D)(1 − ω/(D ω₀))` with `T_max(D)` the model's
  `tmaxPos` / `tmaxNeg`, `T_max (D i_max ∓ i₀)/(i_max − i₀)` (`torque_pos_closed`: written out);
* `current_pos` / `current_neg`: `i = (D i_max ∓ i₀)·T/T_max(D) ± i₀` on any driving torque `T`;
  `current_pos_closed` / `current_neg_closed`: evaluated on the motor's own torque, in closed form;
* `torque_standstill`, `torque_noload`, `current_standstill`, `current_noload`: at any `D` above the
  dead zone `T(0) = T_max(D)`, `i = D·i_max`; `T(D ω₀) = 0`, `i = i₀`; `standstill_full`, `noload_full`,
  `standstill_current`, `noload_current`: at `D = 1` that is `T_max`, `i_max`; `0`, `i₀`;
* `torque_boundary`, `current_boundary`: explicit identities whose right-hand sides vanish as
  `D → i₀/i_max` when `i₀ > 0` — continuity across the dead-zone boundary without limits (with
  `i₀ = 0` there is no dead zone and the documented law itself jumps at `D = 0` unless `ω = 0`);
* `torque_odd`, `current_odd`: reversing `D` and `ω` reverses torque and current exactly
  (`current_neg_neg`: so does reversing `D` and any driving torque);
* `current_total`: the current law never divides by zero for `|D| > i₀/i_max` in exact arithmetic;
  in floating point `D·i_max − i₀` can round to 0 one ulp outside the dead zone — the code then
  returns `±i₀` (repair D9), which is what the model's `tm = 0` branch mirrors.
-/

namespace Gearpy.C08
open Gearpy

structure _root_.Gearpy.MotorP.Good (m : MotorP) (i0 imax : Q) : Prop where
  hc : m.cur = some (i0, imax)
  w0 : 0 < m.w0
  tmax : 0 < m.tmax
  hi0 : 0 ≤ i0
  lt : i0 < imax

variable {m : MotorP} {i0 imax : Q}

theorem imax_pos (g : m.Good i0 imax) : 0 < imax := g.hi0.trans_lt g.lt

theorem pmin_nonneg (g : m.Good i0 imax) : 0 ≤ i0 / imax :=
  div_nonneg g.hi0 (imax_pos g).le

theorem den_pos (g : m.Good i0 imax) : 0 < imax - i0 := sub_pos.2 g.lt

/-- `i₀/i_max < 1` for every accepted motor, so `D = 1` is outside the dead zone -/
theorem pmin_lt_one (g : m.Good i0 imax) : i0 / imax < 1 := (div_lt_one (imax_pos g)).2 g.lt

/-- the three regimes both laws distinguish, `p = i₀/i_max`: dead zone, positive side, negative side -/
theorem regimes (p D : Q) : qabs D ≤ p ∨ p < D ∨ D < -p := by
  rw [qabs_le]
  rcases lt_or_ge p D with h | h
  · exact .inr (.inl h)
  · rcases lt_or_ge D (-p) with h' | h'
    · exact .inr (.inr h')
    · exact .inl ⟨h', h⟩

theorem not_dead_of_lt {p D : Q} (h : p < D) : ¬ qabs D ≤ p := fun h' => (qabs_le.1 h').2.not_gt h

theorem not_dead_of_lt_neg {p D : Q} (h : D < -p) : ¬ qabs D ≤ p := fun h' => (qabs_le.1 h').1.not_gt h

theorem not_pos_of_lt_neg {p D : Q} (hp : 0 ≤ p) (h : D < -p) : ¬ p < D :=
  not_lt.2 (h.le.trans (neg_le_self hp))

theorem torque_no_data (m : MotorP) (h : m.cur = none) (w D : Q) : torque m w D = m.tmax * (1 - w / m.w0) := by
  unfold torque; rw [h]; exact mul_comm _ _

theorem torque_deadzone (g : m.Good i0 imax) (w D : Q) (hD : qabs D ≤ i0 / imax) : torque m w D = 0 := by
  unfold torque; rw [g.hc]; exact if_pos hD

theorem torque_pos (g : m.Good i0 imax) (w D : Q) (hD : i0 / imax < D) :
    torque m w D = tmaxPos m i0 imax D * (1 - w / (D * m.w0)) := by
  unfold torque; rw [g.hc]
  simp only [if_neg (not_dead_of_lt hD), if_pos hD]
  exact mul_comm _ _

theorem torque_neg (g : m.Good i0 imax) (w D : Q) (hD : D < -(i0 / imax)) :
    torque m w D = tmaxNeg m i0 imax D * (1 - w / (D * m.w0)) := by
  unfold torque; rw [g.hc]
  simp only [if_neg (not_dead_of_lt_neg hD), if_neg (not_pos_of_lt_neg (pmin_nonneg g) hD)]
  exact mul_comm _ _

theorem torque_pos_closed (g : m.Good i0 imax) (w D : Q) (hD : i0 / imax < D) :
    torque m w D = m.tmax * ((D * imax - i0) / (imax - i0)) * (1 - w / (D * m.w0)) :=
  torque_pos g w D hD

theorem torque_standstill (g : m.Good i0 imax) (D : Q) (hD : i0 / imax < D) :
    torque m 0 D = tmaxPos m i0 imax D := by
  rw [torque_pos g 0 D hD, zero_div, sub_zero, mul_one]

theorem torque_noload (g : m.Good i0 imax) (D : Q) (hD : i0 / imax < D) : torque m (D * m.w0) D = 0 := by
  rw [torque_pos g _ D hD, div_self (mul_ne_zero ((pmin_nonneg g).trans_lt hD).ne' g.w0.ne'), sub_self, mul_zero]

theorem standstill_full (g : m.Good i0 imax) (h1 : i0 / imax < 1) : torque m 0 1 = m.tmax := by
  rw [torque_standstill g 1 h1, tmaxPos, one_mul, div_self (den_pos g).ne', mul_one]

theorem noload_full (g : m.Good i0 imax) (h1 : i0 / imax < 1) : torque m m.w0 1 = 0 := by
  rw [← torque_noload g 1 h1, one_mul]

theorem torque_boundary (g : m.Good i0 imax) (w D : Q) (hD : i0 / imax < D) :
    torque m w D = m.tmax * (D - i0 / imax) * imax / (imax - i0) * (1 - w / (D * m.w0)) := by
  rw [torque_pos_closed g w D hD, mul_assoc m.tmax (D - _), sub_mul, div_mul_cancel₀ _ (imax_pos g).ne', mul_div_assoc]

/-- the negative side mirrors the positive side -/
theorem tmaxNeg_neg (m : MotorP) (i0 imax D : Q) : tmaxNeg m i0 imax (-D) = -tmaxPos m i0 imax D := by
  unfold tmaxNeg tmaxPos; ring

theorem torque_odd_pos (g : m.Good i0 imax) (w D : Q) (hD : i0 / imax < D) :
    torque m (-w) (-D) = - torque m w D := by
  rw [torque_pos g w D hD, torque_neg g (-w) (-D) (neg_lt_neg hD), tmaxNeg_neg, neg_mul, neg_mul, neg_div_neg_eq]

theorem torque_odd (g : m.Good i0 imax) (w D : Q) : torque m (-w) (-D) = - torque m w D := by
  rcases regimes (i0 / imax) D with h | h | h
  · rw [torque_deadzone g w D h, torque_deadzone g (-w) (-D) (by rwa [qabs_neg]), neg_zero]
  · exact torque_odd_pos g w D h
  · rw [← neg_eq_iff_eq_neg, ← torque_odd_pos g (-w) (-D) (lt_neg_of_lt_neg h), neg_neg, neg_neg]

theorem tmaxPos_ne_zero (g : m.Good i0 imax) (D : Q) (hD : i0 / imax < D) : tmaxPos m i0 imax D ≠ 0 :=
  (mul_pos g.tmax (div_pos (sub_pos.2 ((div_lt_iff₀ (imax_pos g)).1 hD)) (den_pos g))).ne'

theorem tmaxNeg_ne_zero (g : m.Good i0 imax) (D : Q) (hD : D < -(i0 / imax)) : tmaxNeg m i0 imax D ≠ 0 := by
  rw [← neg_neg D, tmaxNeg_neg]
  exact neg_ne_zero.2 (tmaxPos_ne_zero g (-D) (lt_neg_of_lt_neg hD))

theorem current_deadzone (g : m.Good i0 imax) (D T : Q) (hD : qabs D ≤ i0 / imax) :
    current m D T = some (D * imax) := by
  unfold current; rw [g.hc]; simp only [if_pos hD]
  split
  next h0 =>
    rw [h0, qabs_le, neg_zero] at hD
    rw [le_antisymm hD.2 hD.1, zero_mul]
  next h0 => rw [div_div_eq_mul_div, div_mul_cancel₀ _ (div_ne_zero_iff.1 h0).1]

theorem current_pos (g : m.Good i0 imax) (D T : Q) (hD : i0 / imax < D) :
    current m D T = some ((D * imax - i0) * (T / tmaxPos m i0 imax D) + i0) := by
  unfold current; rw [g.hc]
  simp only [if_neg (not_dead_of_lt hD), if_pos hD, if_neg (tmaxPos_ne_zero g D hD)]

theorem current_neg (g : m.Good i0 imax) (D T : Q) (hD : D < -(i0 / imax)) :
    current m D T = some ((D * imax + i0) * (T / tmaxNeg m i0 imax D) - i0) := by
  unfold current; rw [g.hc]
  simp only [if_neg (not_dead_of_lt_neg hD), if_neg (not_pos_of_lt_neg (pmin_nonneg g) hD),
    if_neg (tmaxNeg_ne_zero g D hD)]

theorem current_pos_closed (g : m.Good i0 imax) (w D : Q) (hD : i0 / imax < D) :
    current m D (torque m w D) = some ((D * imax - i0) * (1 - w / (D * m.w0)) + i0) := by
  rw [current_pos g D _ hD, torque_pos g w D hD, mul_div_cancel_left₀ _ (tmaxPos_ne_zero g D hD)]

theorem current_neg_closed (g : m.Good i0 imax) (w D : Q) (hD : D < -(i0 / imax)) :
    current m D (torque m w D) = some ((D * imax + i0) * (1 - w / (D * m.w0)) - i0) := by
  rw [current_neg g D _ hD, torque_neg g w D hD, mul_div_cancel_left₀ _ (tmaxNeg_ne_zero g D hD)]

theorem current_standstill (g : m.Good i0 imax) (D : Q) (hD : i0 / imax < D) :
    current m D (torque m 0 D) = some (D * imax) := by
  rw [current_pos_closed g 0 D hD, zero_div, sub_zero, mul_one, sub_add_cancel]

theorem current_noload (g : m.Good i0 imax) (D : Q) (hD : i0 / imax < D) :
    current m D (torque m (D * m.w0) D) = some i0 := by
  rw [torque_noload g D hD, current_pos g D 0 hD, zero_div, mul_zero, zero_add]

theorem standstill_current (g : m.Good i0 imax) : current m 1 (torque m 0 1) = some imax := by
  rw [current_standstill g 1 (pmin_lt_one g), one_mul]

theorem noload_current (g : m.Good i0 imax) : current m 1 (torque m m.w0 1) = some i0 := by
  rw [← current_noload g 1 (pmin_lt_one g), one_mul]

theorem current_boundary (g : m.Good i0 imax) (w D c : Q) (hD : i0 / imax < D)
    (hc : current m D (torque m w D) = some c) : c - D * imax = -(D * imax - i0) * (w / (D * m.w0)) := by
  rw [current_pos_closed g w D hD, Option.some.injEq] at hc
  rw [← hc]; ring

theorem current_odd_pos (g : m.Good i0 imax) (D T : Q) (hD : i0 / imax < D) :
    current m (-D) (-T) = (current m D T).map Neg.neg := by
  rw [current_pos g D T hD, current_neg g (-D) (-T) (neg_lt_neg hD), tmaxNeg_neg, neg_div_neg_eq,
    Option.map_some]
  congr 1; ring

theorem current_neg_neg (g : m.Good i0 imax) (D T : Q) : current m (-D) (-T) = (current m D T).map Neg.neg := by
  rcases regimes (i0 / imax) D with h | h | h
  · rw [current_deadzone g D T h, current_deadzone g (-D) (-T) (by rwa [qabs_neg]), Option.map_some, neg_mul]
  · exact current_odd_pos g D T h
  · have := current_odd_pos g (-D) (-T) (lt_neg_of_lt_neg h)
    rw [neg_neg, neg_neg] at this
    rw [this, Option.map_map]; simp

theorem current_odd (g : m.Good i0 imax) (w D : Q) (hD : i0 / imax < D) (c c' : Q)
    (h1 : current m D (torque m w D) = some c) (h2 : current m (-D) (torque m (-w) (-D)) = some c') : c' = -c := by
  -- `current_neg_neg` holds in every regime: `hD` is not needed
  rw [torque_odd g w D, current_neg_neg g, h1, Option.map_some, Option.some.injEq] at h2
  exact h2.symm

theorem current_total (g : m.Good i0 imax) (D T : Q) : ∃ c, current m D T = some c := by
  rcases regimes (i0 / imax) D with h | h | h
  · exact ⟨_, current_deadzone g D T h⟩
  · exact ⟨_, current_pos g D T h⟩
  · exact ⟨_, current_neg g D T h⟩

/-! ### non-vacuity -/
def exM : MotorP := ⟨100, 2, some (1/10, 2)⟩
theorem exM_good : exM.Good (1/10) 2 := ⟨rfl, by decide +kernel, by decide +kernel, by decide +kernel, by decide +kernel⟩
example : torque exM 0 1 = 2 := standstill_full exM_good (pmin_lt_one exM_good)
example : torque exM 30 (1/20) = 0 := torque_deadzone exM_good 30 (1/20) (by decide +kernel)

end Gearpy.C08
