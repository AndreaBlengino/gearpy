-- root of the library: every model, proof and property module (built by `lake build Gearpy`)
import Gearpy.Model.Basic
import Gearpy.Model.Control
import Gearpy.Model.Gears
import Gearpy.Model.Grid
import Gearpy.Model.Motor
import Gearpy.Model.Pipeline
import Gearpy.Model.Record
import Gearpy.Model.Relations
import Gearpy.Model.Snapshot
import Gearpy.Model.Solver
import Gearpy.Model.UnitStep
import Gearpy.Model.Units
import Gearpy.Generated.Tables
import Gearpy.Spec.SI
import Gearpy.Proofs.Except
import Gearpy.Proofs.GenTable
import Gearpy.Proofs.Grid
import Gearpy.Proofs.Chain
import Gearpy.Proofs.Solver
import Gearpy.Proofs.History
import Gearpy.Proofs.Lerp
import Gearpy.Proofs.UnitStep
import Gearpy.Proofs.Units
import Gearpy.Properties.C01
import Gearpy.Properties.C02
import Gearpy.Properties.C03
import Gearpy.Properties.C04
import Gearpy.Properties.C05
import Gearpy.Properties.C06
import Gearpy.Properties.C07
import Gearpy.Properties.C08
import Gearpy.Properties.C09
import Gearpy.Properties.C10
import Gearpy.Properties.C11
import Gearpy.Properties.C12
import Gearpy.Properties.C13
import Gearpy.Properties.C14
import Gearpy.Properties.C15
import Gearpy.Properties.C16
import Gearpy.Properties.C17
import Gearpy.Properties.C18
import Gearpy.Properties.C19
import Gearpy.Properties.C20
